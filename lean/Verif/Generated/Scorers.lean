-- GENERATED by harness/props/c03.py from the matrix files under src/lingpy/data/models of the checked repository. Do not edit.
import Verif.Props.C03SelfTable
namespace Verif.Generated.Scorers
open Verif.Align

/-- scores of the model `asjp` times 100, plus 2188 (natural numbers elaborate fast) -/
def m_asjp_nat : List (List Nat) := [
  [2188, 1313, 1313, 1313, 1313, 1313, 1313, 1313, 1313, 1313, 1313, 1313, 1313, 1313, 1313, 1313, 1313, 1313, 1313, 2188, 1313, 1313, 1313, 1313, 1313, 1313, 1313, 1313, 1313, 1313, 1313, 1313, 1313, 1313, 1313, 1313, 1313, 1313, 1313, 1313, 1313, 1313, 1313, 1313, 1313, 1313, 1313],
  [1313, 2626, 2407, 2407, 2407, 2407, 2407, 1313, 1313, 1313, 1313, 1313, 1313, 1313, 1313, 1313, 1313, 1313, 1313, 0, 1313, 1313, 1313, 1313, 1313, 1313, 1313, 1313, 1313, 1313, 1313, 1313, 1313, 1313, 1313, 1313, 1313, 1313, 1313, 1313, 1313, 1313, 1313, 1313, 1313, 1313, 1313],
  [1313, 2407, 2626, 2407, 2407, 2407, 2407, 1313, 1313, 1313, 1313, 1313, 1313, 1313, 1313, 1313, 1313, 1313, 1313, 0, 1313, 1313, 1313, 1313, 1313, 1313, 1313, 1313, 1313, 1313, 1313, 1313, 1313, 1313, 1313, 1313, 1313, 1313, 1313, 1313, 1313, 1313, 1313, 1313, 1313, 1313, 1313],
  [1313, 2407, 2407, 2626, 2407, 2407, 2407, 1313, 1313, 1313, 1313, 1313, 1313, 1313, 1313, 1313, 1313, 1313, 1313, 0, 1313, 1313, 1313, 1313, 1313, 1313, 1313, 1313, 1313, 1313, 1313, 1313, 1313, 1313, 1313, 1313, 1313, 1313, 1313, 1313, 1313, 1313, 1313, 1313, 1313, 1313, 1313],
  [1313, 2407, 2407, 2407, 2626, 2407, 2407, 1313, 1313, 1313, 1313, 1313, 1313, 1313, 1313, 1313, 1313, 1313, 1313, 0, 1313, 1313, 1313, 1313, 1313, 1313, 1313, 1313, 1313, 1313, 1313, 1313, 1313, 1313, 1313, 1313, 1313, 1313, 1313, 1313, 1313, 1313, 1313, 1313, 1313, 1313, 1313],
  [1313, 2407, 2407, 2407, 2407, 2626, 2407, 1313, 1313, 1313, 1313, 1313, 1313, 1313, 1313, 1313, 1313, 1313, 1313, 0, 1313, 1313, 1313, 1313, 1313, 1313, 1313, 1313, 1313, 1313, 1313, 1313, 1313, 1313, 1313, 1313, 1313, 1313, 1313, 1313, 1313, 1313, 1313, 1313, 1313, 1313, 1313],
  [1313, 2407, 2407, 2407, 2407, 2407, 2626, 1313, 1313, 1313, 1313, 1313, 1313, 1313, 1313, 1313, 1313, 1313, 1313, 0, 1313, 1313, 1313, 1313, 1313, 1313, 1313, 1313, 1313, 1313, 1313, 1313, 1313, 1313, 1313, 1313, 1313, 1313, 1313, 1313, 1313, 1313, 1313, 1313, 1313, 1313, 1313],
  [1313, 1313, 1313, 1313, 1313, 1313, 1313, 3188, 2188, 2188, 1357, 2319, 2188, 1357, 2276, 2232, 2188, 2188, 2188, 0, 1357, 2232, 2188, 2232, 1357, 2188, 2319, 2450, 1357, 2188, 2582, 2276, 2188, 2232, 1357, 2188, 2538, 2276, 2232, 2363, 1357, 2188, 2276, 2363, 2276, 2188, 1313],
  [1313, 1313, 1313, 1313, 1313, 1313, 1313, 2188, 3188, 2188, 1357, 2188, 2188, 1357, 2188, 2188, 2319, 2319, 2188, 0, 1357, 2188, 2319, 2626, 1357, 2188, 2188, 2276, 1357, 2188, 2188, 2363, 2188, 2188, 1357, 2188, 2188, 2188, 2494, 2669, 1357, 2188, 2188, 2188, 2363, 2319, 1313],
  [1313, 1313, 1313, 1313, 1313, 1313, 1313, 2188, 2188, 3188, 1357, 2319, 2188, 1357, 2188, 2188, 2319, 3019, 2276, 0, 1357, 2188, 2932, 2276, 1357, 2188, 2188, 2319, 1357, 2232, 2276, 2232, 2188, 2232, 1357, 2188, 2188, 2276, 2450, 2450, 1357, 2188, 2188, 2232, 2232, 2232, 2188],
  [1313, 1313, 1313, 1313, 1313, 1313, 1313, 1357, 1357, 1357, 3063, 1357, 1357, 2844, 1357, 1357, 1357, 1357, 1357, 0, 2976, 1357, 1357, 1357, 2976, 1357, 1357, 1357, 2844, 1357, 1357, 1357, 1357, 1357, 2757, 1357, 1357, 1357, 1357, 1357, 2713, 1357, 1357, 1357, 1357, 1357, 1313],
  [1313, 1313, 1313, 1313, 1313, 1313, 1313, 2319, 2188, 2319, 1357, 3188, 2188, 1357, 2188, 2188, 2188, 2188, 2188, 0, 1357, 2188, 2188, 2188, 1357, 2188, 2319, 2538, 1357, 2188, 2582, 2188, 2188, 2188, 1357, 2188, 2450, 2800, 2276, 2188, 1357, 2188, 2188, 3107, 2188, 2188, 2188],
  [1313, 1313, 1313, 1313, 1313, 1313, 1313, 2188, 2188, 2188, 1357, 2188, 3188, 1357, 2188, 2407, 2188, 2188, 2188, 0, 1357, 2188, 2188, 2188, 1357, 2188, 2188, 2188, 1357, 2188, 2188, 2232, 2232, 2582, 1357, 2188, 2188, 2188, 2188, 2188, 1357, 2188, 2188, 2232, 2232, 2188, 2188],
  [1313, 1313, 1313, 1313, 1313, 1313, 1313, 1357, 1357, 1357, 2844, 1357, 1357, 3063, 1357, 1357, 1357, 1357, 1357, 0, 2888, 1357, 1357, 1357, 2844, 1357, 1357, 1357, 2888, 1357, 1357, 1357, 1357, 1357, 2800, 1357, 1357, 1357, 1357, 1357, 2844, 1357, 1357, 1357, 1357, 1357, 1313],
  [1313, 1313, 1313, 1313, 1313, 1313, 1313, 2276, 2188, 2188, 1357, 2188, 2188, 1357, 3188, 2188, 2188, 2319, 2188, 0, 1357, 2188, 2276, 2276, 1357, 2188, 2188, 2319, 1357, 2188, 2188, 3019, 2188, 2232, 1357, 2188, 2188, 2538, 2188, 2319, 1357, 2188, 2232, 2276, 2319, 2319, 1313],
  [1313, 1313, 1313, 1313, 1313, 1313, 1313, 2232, 2188, 2188, 1357, 2188, 2407, 1357, 2188, 3188, 2188, 2188, 2188, 0, 1357, 2188, 2188, 2232, 1357, 2188, 2276, 2232, 1357, 2188, 2276, 2232, 2276, 2757, 1357, 2188, 2188, 2232, 2188, 2232, 1357, 2188, 2188, 2276, 2276, 2188, 2188],
  [1313, 1313, 1313, 1313, 1313, 1313, 1313, 2188, 2319, 2319, 1357, 2188, 2188, 1357, 2188, 2188, 3188, 2276, 2276, 0, 1357, 2188, 2232, 2188, 1357, 2188, 2188, 2319, 1357, 2232, 2232, 2188, 2188, 2232, 1357, 2188, 2188, 2232, 2976, 2232, 1357, 2188, 2188, 2232, 2232, 2319, 1313],
  [1313, 1313, 1313, 1313, 1313, 1313, 1313, 2188, 2319, 3019, 1357, 2188, 2188, 1357, 2319, 2188, 2276, 3188, 2582, 0, 1357, 2188, 2450, 2407, 1357, 2188, 2276, 2188, 1357, 2626, 2319, 2232, 2188, 2188, 1357, 2188, 2188, 2276, 2319, 2319, 1357, 2188, 2232, 2188, 2319, 2363, 2188],
  [1313, 1313, 1313, 1313, 1313, 1313, 1313, 2188, 2188, 2276, 1357, 2188, 2188, 1357, 2188, 2188, 2276, 2582, 3188, 0, 1357, 2188, 2276, 2232, 1357, 2188, 2232, 2188, 1357, 2888, 2188, 2188, 2188, 2188, 1357, 2188, 2188, 2363, 2232, 2188, 1357, 2188, 2188, 2188, 2494, 2363, 1313],
  [2188, 0, 0, 0, 0, 0, 0, 0, 0, 0, 0, 0, 0, 0, 0, 0, 0, 0, 0, 2188, 0, 0, 0, 0, 0, 0, 0, 0, 0, 0, 0, 0, 0, 0, 0, 0, 0, 0, 0, 0, 0, 0, 0, 0, 0, 0, 1313],
  [1313, 1313, 1313, 1313, 1313, 1313, 1313, 1357, 1357, 1357, 2976, 1357, 1357, 2888, 1357, 1357, 1357, 1357, 1357, 0, 3063, 1357, 1357, 1357, 2976, 1357, 1357, 1357, 2800, 1357, 1357, 1357, 1357, 1357, 2932, 1357, 1357, 1357, 1357, 1357, 2713, 1357, 1357, 1357, 1357, 1357, 1313],
  [1313, 1313, 1313, 1313, 1313, 1313, 1313, 2232, 2188, 2188, 1357, 2188, 2188, 1357, 2188, 2188, 2188, 2188, 2188, 0, 1357, 3188, 2188, 2232, 1357, 2363, 2232, 2232, 1357, 2188, 2188, 2232, 2276, 2188, 1357, 2626, 2188, 2188, 2188, 2188, 1357, 2800, 2450, 2232, 2188, 2188, 1313],
  [1313, 1313, 1313, 1313, 1313, 1313, 1313, 2188, 2319, 2932, 1357, 2188, 2188, 1357, 2276, 2188, 2232, 2450, 2276, 0, 1357, 2188, 3188, 2319, 1357, 2188, 2276, 2232, 1357, 2538, 2232, 2276, 2232, 2188, 1357, 2188, 2188, 2232, 2669, 2407, 1357, 2188, 2188, 2188, 2276, 2319, 2188],
  [1313, 1313, 1313, 1313, 1313, 1313, 1313, 2232, 2626, 2276, 1357, 2188, 2188, 1357, 2276, 2232, 2188, 2407, 2232, 0, 1357, 2232, 2319, 3188, 1357, 2232, 2276, 2232, 1357, 2363, 2232, 2363, 2188, 2363, 1357, 2188, 2188, 2626, 2232, 2713, 1357, 2232, 2188, 2232, 2232, 2363, 2188],
  [1313, 1313, 1313, 1313, 1313, 1313, 1313, 1357, 1357, 1357, 2976, 1357, 1357, 2844, 1357, 1357, 1357, 1357, 1357, 0, 2976, 1357, 1357, 1357, 3063, 1357, 1357, 1357, 2976, 1357, 1357, 1357, 1357, 1357, 2757, 1357, 1357, 1357, 1357, 1357, 2669, 1357, 1357, 1357, 1357, 1357, 1313],
  [1313, 1313, 1313, 1313, 1313, 1313, 1313, 2188, 2188, 2188, 1357, 2188, 2188, 1357, 2188, 2188, 2188, 2188, 2188, 0, 1357, 2363, 2188, 2232, 1357, 3188, 2188, 2407, 1357, 2188, 2232, 2188, 2188, 2188, 1357, 2626, 2188, 2188, 2232, 2232, 1926, 2669, 2319, 2188, 2188, 2188, 1313],
  [1313, 1313, 1313, 1313, 1313, 1313, 1313, 2319, 2188, 2188, 1357, 2319, 2188, 1357, 2188, 2276, 2188, 2276, 2232, 0, 1357, 2232, 2276, 2276, 1357, 2188, 3188, 2319, 1357, 2232, 2757, 2319, 2188, 2188, 1357, 2188, 2276, 2276, 2188, 2188, 1357, 2232, 2188, 2407, 2232, 2232, 2188],
  [1313, 1313, 1313, 1313, 1313, 1313, 1313, 2450, 2276, 2319, 1357, 2538, 2188, 1357, 2319, 2232, 2319, 2188, 2188, 0, 1357, 2232, 2232, 2232, 1357, 2407, 2319, 3188, 1357, 2232, 2363, 2276, 2188, 2188, 1357, 2363, 2276, 2319, 2494, 2276, 1357, 2232, 2276, 2888, 2276, 2232, 2188],
  [1313, 1313, 1313, 1313, 1313, 1313, 1313, 1357, 1357, 1357, 2844, 1357, 1357, 2888, 1357, 1357, 1357, 1357, 1357, 0, 2800, 1357, 1357, 1357, 2976, 1357, 1357, 1357, 3063, 1357, 1357, 1357, 1357, 1357, 2713, 1357, 1357, 1357, 1357, 1357, 2800, 1357, 1357, 1357, 2100, 1357, 1313],
  [1313, 1313, 1313, 1313, 1313, 1313, 1313, 2188, 2188, 2232, 1357, 2188, 2188, 1357, 2188, 2188, 2232, 2626, 2888, 0, 1357, 2188, 2538, 2363, 1357, 2188, 2232, 2232, 1357, 3188, 2188, 2363, 2232, 2232, 1357, 2188, 2188, 2232, 2188, 2319, 1357, 2188, 2232, 2232, 2713, 2538, 2188],
  [1313, 1313, 1313, 1313, 1313, 1313, 1313, 2582, 2188, 2276, 1357, 2582, 2188, 1357, 2188, 2276, 2232, 2319, 2188, 0, 1357, 2188, 2232, 2232, 1357, 2232, 2757, 2363, 1357, 2188, 3188, 2188, 2188, 2188, 1357, 2188, 2713, 2188, 2232, 2276, 1357, 2188, 2232, 2494, 2188, 2188, 2188],
  [1313, 1313, 1313, 1313, 1313, 1313, 1313, 2276, 2363, 2232, 1357, 2188, 2232, 1357, 3019, 2232, 2188, 2232, 2188, 0, 1357, 2232, 2276, 2363, 1357, 2188, 2319, 2276, 1357, 2363, 2188, 3188, 2188, 2319, 1357, 2188, 2188, 2976, 2232, 2276, 1357, 2232, 2188, 2319, 2363, 2276, 1313],
  [1313, 1313, 1313, 1313, 1313, 1313, 1313, 2188, 2188, 2188, 1357, 2188, 2232, 1357, 2188, 2276, 2188, 2188, 2188, 0, 1357, 2276, 2232, 2188, 1357, 2188, 2188, 2188, 1357, 2232, 2188, 2188, 3188, 2319, 1357, 2232, 2188, 2188, 2188, 2188, 1357, 2232, 2232, 2188, 2188, 2188, 1313],
  [1313, 1313, 1313, 1313, 1313, 1313, 1313, 2232, 2188, 2232, 1357, 2188, 2582, 1357, 2232, 2757, 2232, 2188, 2188, 0, 1357, 2188, 2188, 2363, 1357, 2188, 2188, 2188, 1357, 2232, 2188, 2319, 2319, 3188, 1357, 2188, 2232, 2319, 2232, 2232, 1357, 2188, 2188, 2232, 2232, 2188, 1313],
  [1313, 1313, 1313, 1313, 1313, 1313, 1313, 1357, 1357, 1357, 2757, 1357, 1357, 2800, 1357, 1357, 1357, 1357, 1357, 0, 2932, 1357, 1357, 1357, 2757, 1357, 1357, 1357, 2713, 1357, 1357, 1357, 1357, 1357, 3063, 1357, 1357, 1357, 1357, 1357, 2932, 1357, 1357, 1357, 1357, 1357, 1313],
  [1313, 1313, 1313, 1313, 1313, 1313, 1313, 2188, 2188, 2188, 1357, 2188, 2188, 1357, 2188, 2188, 2188, 2188, 2188, 0, 1357, 2626, 2188, 2188, 1357, 2626, 2188, 2363, 1357, 2188, 2188, 2188, 2232, 2188, 1357, 3188, 2188, 2188, 2188, 2188, 1357, 2363, 2276, 2188, 2188, 2188, 1313],
  [1313, 1313, 1313, 1313, 1313, 1313, 1313, 2538, 2188, 2188, 1357, 2450, 2188, 1357, 2188, 2188, 2188, 2188, 2188, 0, 1357, 2188, 2188, 2188, 1357, 2188, 2276, 2276, 1357, 2188, 2713, 2188, 2188, 2232, 1357, 2188, 3188, 2188, 2188, 2232, 1357, 2188, 2188, 2669, 2188, 2188, 2188],
  [1313, 1313, 1313, 1313, 1313, 1313, 1313, 2276, 2188, 2276, 1357, 2800, 2188, 1357, 2538, 2232, 2232, 2276, 2363, 0, 1357, 2188, 2232, 2626, 1357, 2188, 2276, 2319, 1357, 2232, 2188, 2976, 2188, 2319, 1357, 2188, 2188, 3188, 2276, 2319, 1357, 2188, 2232, 2450, 2363, 2494, 1313],
  [1313, 1313, 1313, 1313, 1313, 1313, 1313, 2232, 2494, 2450, 1357, 2276, 2188, 1357, 2188, 2188, 2976, 2319, 2232, 0, 1357, 2188, 2669, 2232, 1357, 2232, 2188, 2494, 1357, 2188, 2232, 2232, 2188, 2232, 1357, 2188, 2188, 2276, 3188, 2319, 1357, 2188, 2188, 2276, 2232, 2626, 1313],
  [1313, 1313, 1313, 1313, 1313, 1313, 1313, 2363, 2669, 2450, 1357, 2188, 2188, 1357, 2319, 2232, 2232, 2319, 2188, 0, 1357, 2188, 2407, 2713, 1357, 2232, 2188, 2276, 1357, 2319, 2276, 2276, 2188, 2232, 1357, 2188, 2232, 2319, 2319, 3188, 1357, 2188, 2188, 2232, 2188, 2188, 2188],
  [1313, 1313, 1313, 1313, 1313, 1313, 1313, 1357, 1357, 1357, 2713, 1357, 1357, 2844, 1357, 1357, 1357, 1357, 1357, 0, 2713, 1357, 1357, 1357, 2669, 1926, 1357, 1357, 2800, 1357, 1357, 1357, 1357, 1357, 2932, 1357, 1357, 1357, 1357, 1357, 3063, 2013, 2100, 1357, 1357, 1357, 1313],
  [1313, 1313, 1313, 1313, 1313, 1313, 1313, 2188, 2188, 2188, 1357, 2188, 2188, 1357, 2188, 2188, 2188, 2188, 2188, 0, 1357, 2800, 2188, 2232, 1357, 2669, 2232, 2232, 1357, 2188, 2188, 2232, 2232, 2188, 1357, 2363, 2188, 2188, 2188, 2188, 2013, 3188, 2888, 2363, 2188, 2188, 1313],
  [1313, 1313, 1313, 1313, 1313, 1313, 1313, 2276, 2188, 2188, 1357, 2188, 2188, 1357, 2232, 2188, 2188, 2232, 2188, 0, 1357, 2450, 2188, 2188, 1357, 2319, 2188, 2276, 1357, 2232, 2232, 2188, 2232, 2188, 1357, 2276, 2188, 2232, 2188, 2188, 2100, 2888, 3188, 2232, 2188, 2232, 1313],
  [1313, 1313, 1313, 1313, 1313, 1313, 1313, 2363, 2188, 2232, 1357, 3107, 2232, 1357, 2276, 2276, 2232, 2188, 2188, 0, 1357, 2232, 2188, 2232, 1357, 2188, 2407, 2888, 1357, 2232, 2494, 2319, 2188, 2232, 1357, 2188, 2669, 2450, 2276, 2232, 1357, 2363, 2232, 3188, 2276, 2188, 2188],
  [1313, 1313, 1313, 1313, 1313, 1313, 1313, 2276, 2363, 2232, 1357, 2188, 2232, 1357, 2319, 2276, 2232, 2319, 2494, 0, 1357, 2188, 2276, 2232, 1357, 2188, 2232, 2276, 2100, 2713, 2188, 2363, 2188, 2232, 1357, 2188, 2188, 2363, 2232, 2188, 1357, 2188, 2188, 2276, 3188, 2363, 1313],
  [1313, 1313, 1313, 1313, 1313, 1313, 1313, 2188, 2319, 2232, 1357, 2188, 2188, 1357, 2319, 2188, 2319, 2363, 2363, 0, 1357, 2188, 2319, 2363, 1357, 2188, 2232, 2232, 1357, 2538, 2188, 2276, 2188, 2188, 1357, 2188, 2188, 2494, 2626, 2188, 1357, 2188, 2232, 2188, 2363, 3188, 1313],
  [1313, 1313, 1313, 1313, 1313, 1313, 1313, 1313, 1313, 2188, 1313, 2188, 2188, 1313, 1313, 2188, 1313, 2188, 1313, 1313, 1313, 1313, 2188, 2188, 1313, 1313, 2188, 2188, 1313, 2188, 2188, 1313, 1313, 1313, 1313, 1313, 2188, 1313, 1313, 2188, 1313, 1313, 1313, 2188, 1313, 1313, 3188]
]
/-- scores of the model `asjp` times 100 -/
def m_asjp : List (List Int) := m_asjp_nat.map fun r => r.map fun v => (v : Int) - 2188
theorem m_asjp_table : diagDomTable m_asjp = true :=
  diagDomTable_shift 2188 m_asjp_nat (by decide +kernel)
theorem m_asjp_dom : DiagDom (scorerOf m_asjp 100) := diagDom_of_table _ _ (by decide) m_asjp_table

/-- scores of the model `asjp_el` times 100, plus 2188 (natural numbers elaborate fast) -/
def m_asjp_el_nat : List (List Nat) := [
  [2188, 1313, 1313, 1313, 1313, 1313, 1313, 1313, 1313, 1313, 1313, 1313, 1313, 1313, 1313, 1313, 1313, 2188, 1313, 1313, 1313, 1313, 1313, 1313, 1313, 1313, 1313, 1313, 1313, 1313, 1313, 1313, 1313, 1313, 1313, 1313, 1313, 1313, 1313, 1313, 1313, 1313, 1313, 1313, 1313],
  [1313, 2626, 2407, 2407, 2407, 1313, 1313, 1313, 1313, 1313, 1313, 1313, 1313, 1313, 1313, 1313, 1313, 0, 1313, 1313, 1313, 1313, 1313, 1313, 1313, 1313, 1313, 1313, 1313, 1313, 1313, 1313, 1313, 1313, 1313, 1313, 1313, 1313, 1313, 1313, 1313, 1313, 1313, 1313, 1313],
  [1313, 2407, 2626, 2407, 2407, 1313, 1313, 1313, 1313, 1313, 1313, 1313, 1313, 1313, 1313, 1313, 1313, 0, 1313, 1313, 1313, 1313, 1313, 1313, 1313, 1313, 1313, 1313, 1313, 1313, 1313, 1313, 1313, 1313, 1313, 1313, 1313, 1313, 1313, 1313, 1313, 1313, 1313, 1313, 1313],
  [1313, 2407, 2407, 2626, 2407, 1313, 1313, 1313, 1313, 1313, 1313, 1313, 1313, 1313, 1313, 1313, 1313, 0, 1313, 1313, 1313, 1313, 1313, 1313, 1313, 1313, 1313, 1313, 1313, 1313, 1313, 1313, 1313, 1313, 1313, 1313, 1313, 1313, 1313, 1313, 1313, 1313, 1313, 1313, 1313],
  [1313, 2407, 2407, 2407, 2626, 1313, 1313, 1313, 1313, 1313, 1313, 1313, 1313, 1313, 1313, 1313, 1313, 0, 1313, 1313, 1313, 1313, 1313, 1313, 1313, 1313, 1313, 1313, 1313, 1313, 1313, 1313, 1313, 1313, 1313, 1313, 1313, 1313, 1313, 1313, 1313, 1313, 1313, 1313, 1313],
  [1313, 1313, 1313, 1313, 1313, 3188, 2188, 2188, 1357, 2319, 2188, 1357, 2276, 2232, 2188, 2188, 2188, 0, 1357, 2232, 2188, 2232, 1357, 2188, 2319, 2450, 1357, 2188, 2582, 2276, 2188, 2232, 1357, 2188, 2538, 2276, 2232, 2363, 1357, 2188, 2276, 2363, 2276, 2188, 1313],
  [1313, 1313, 1313, 1313, 1313, 2188, 3188, 2188, 1357, 2188, 2188, 1357, 2188, 2188, 2319, 2319, 2188, 0, 1357, 2188, 2319, 2626, 1357, 2188, 2188, 2276, 1357, 2188, 2188, 2363, 2188, 2188, 1357, 2188, 2188, 2188, 2494, 2669, 1357, 2188, 2188, 2188, 2363, 2319, 1313],
  [1313, 1313, 1313, 1313, 1313, 2188, 2188, 3188, 1357, 2319, 2188, 1357, 2188, 2188, 2319, 3019, 2276, 0, 1357, 2188, 2932, 2276, 1357, 2188, 2188, 2319, 1357, 2232, 2276, 2232, 2188, 2232, 1357, 2188, 2188, 2276, 2450, 2450, 1357, 2188, 2188, 2232, 2232, 2232, 2188],
  [1313, 1313, 1313, 1313, 1313, 1357, 1357, 1357, 3063, 1357, 1357, 2844, 1357, 1357, 1357, 1357, 1357, 0, 2976, 1357, 1357, 1357, 2976, 1357, 1357, 1357, 2844, 1357, 1357, 1357, 1357, 1357, 2757, 1357, 1357, 1357, 1357, 1357, 2713, 1357, 1357, 1357, 1357, 1357, 1313],
  [1313, 1313, 1313, 1313, 1313, 2319, 2188, 2319, 1357, 3188, 2188, 1357, 2188, 2188, 2188, 2188, 2188, 0, 1357, 2188, 2188, 2188, 1357, 2188, 2319, 2538, 1357, 2188, 2582, 2188, 2188, 2188, 1357, 2188, 2450, 2800, 2276, 2188, 1357, 2188, 2188, 3107, 2188, 2188, 2188],
  [1313, 1313, 1313, 1313, 1313, 2188, 2188, 2188, 1357, 2188, 3188, 1357, 2188, 2407, 2188, 2188, 2188, 0, 1357, 2188, 2188, 2188, 1357, 2188, 2188, 2188, 1357, 2188, 2188, 2232, 2232, 2582, 1357, 2188, 2188, 2188, 2188, 2188, 1357, 2188, 2188, 2232, 2232, 2188, 2188],
  [1313, 1313, 1313, 1313, 1313, 1357, 1357, 1357, 2844, 1357, 1357, 3063, 1357, 1357, 1357, 1357, 1357, 0, 2888, 1357, 1357, 1357, 2844, 1357, 1357, 1357, 2888, 1357, 1357, 1357, 1357, 1357, 2800, 1357, 1357, 1357, 1357, 1357, 2844, 1357, 1357, 1357, 1357, 1357, 1313],
  [1313, 1313, 1313, 1313, 1313, 2276, 2188, 2188, 1357, 2188, 2188, 1357, 3188, 2188, 2188, 2319, 2188, 0, 1357, 2188, 2276, 2276, 1357, 2188, 2188, 2319, 1357, 2188, 2188, 3019, 2188, 2232, 1357, 2188, 2188, 2538, 2188, 2319, 1357, 2188, 2232, 2276, 2319, 2319, 1313],
  [1313, 1313, 1313, 1313, 1313, 2232, 2188, 2188, 1357, 2188, 2407, 1357, 2188, 3188, 2188, 2188, 2188, 0, 1357, 2188, 2188, 2232, 1357, 2188, 2276, 2232, 1357, 2188, 2276, 2232, 2276, 2757, 1357, 2188, 2188, 2232, 2188, 2232, 1357, 2188, 2188, 2276, 2276, 2188, 2188],
  [1313, 1313, 1313, 1313, 1313, 2188, 2319, 2319, 1357, 2188, 2188, 1357, 2188, 2188, 3188, 2276, 2276, 0, 1357, 2188, 2232, 2188, 1357, 2188, 2188, 2319, 1357, 2232, 2232, 2188, 2188, 2232, 1357, 2188, 2188, 2232, 2976, 2232, 1357, 2188, 2188, 2232, 2232, 2319, 1313],
  [1313, 1313, 1313, 1313, 1313, 2188, 2319, 3019, 1357, 2188, 2188, 1357, 2319, 2188, 2276, 3188, 2582, 0, 1357, 2188, 2450, 2407, 1357, 2188, 2276, 2188, 1357, 2626, 2319, 2232, 2188, 2188, 1357, 2188, 2188, 2276, 2319, 2319, 1357, 2188, 2232, 2188, 2319, 2363, 2188],
  [1313, 1313, 1313, 1313, 1313, 2188, 2188, 2276, 1357, 2188, 2188, 1357, 2188, 2188, 2276, 2582, 3188, 0, 1357, 2188, 2276, 2232, 1357, 2188, 2232, 2188, 1357, 2888, 2188, 2188, 2188, 2188, 1357, 2188, 2188, 2363, 2232, 2188, 1357, 2188, 2188, 2188, 2494, 2363, 1313],
  [2188, 0, 0, 0, 0, 0, 0, 0, 0, 0, 0, 0, 0, 0, 0, 0, 0, 2188, 0, 0, 0, 0, 0, 0, 0, 0, 0, 0, 0, 0, 0, 0, 0, 0, 0, 0, 0, 0, 0, 0, 0, 0, 0, 0, 1313],
  [1313, 1313, 1313, 1313, 1313, 1357, 1357, 1357, 2976, 1357, 1357, 2888, 1357, 1357, 1357, 1357, 1357, 0, 3063, 1357, 1357, 1357, 2976, 1357, 1357, 1357, 2800, 1357, 1357, 1357, 1357, 1357, 2932, 1357, 1357, 1357, 1357, 1357, 2713, 1357, 1357, 1357, 1357, 1357, 1313],
  [1313, 1313, 1313, 1313, 1313, 2232, 2188, 2188, 1357, 2188, 2188, 1357, 2188, 2188, 2188, 2188, 2188, 0, 1357, 3188, 2188, 2232, 1357, 2363, 2232, 2232, 1357, 2188, 2188, 2232, 2276, 2188, 1357, 2626, 2188, 2188, 2188, 2188, 1357, 2800, 2450, 2232, 2188, 2188, 1313],
  [1313, 1313, 1313, 1313, 1313, 2188, 2319, 2932, 1357, 2188, 2188, 1357, 2276, 2188, 2232, 2450, 2276, 0, 1357, 2188, 3188, 2319, 1357, 2188, 2276, 2232, 1357, 2538, 2232, 2276, 2232, 2188, 1357, 2188, 2188, 2232, 2669, 2407, 1357, 2188, 2188, 2188, 2276, 2319, 2188],
  [1313, 1313, 1313, 1313, 1313, 2232, 2626, 2276, 1357, 2188, 2188, 1357, 2276, 2232, 2188, 2407, 2232, 0, 1357, 2232, 2319, 3188, 1357, 2232, 2276, 2232, 1357, 2363, 2232, 2363, 2188, 2363, 1357, 2188, 2188, 2626, 2232, 2713, 1357, 2232, 2188, 2232, 2232, 2363, 2188],
  [1313, 1313, 1313, 1313, 1313, 1357, 1357, 1357, 2976, 1357, 1357, 2844, 1357, 1357, 1357, 1357, 1357, 0, 2976, 1357, 1357, 1357, 3063, 1357, 1357, 1357, 2976, 1357, 1357, 1357, 1357, 1357, 2757, 1357, 1357, 1357, 1357, 1357, 2669, 1357, 1357, 1357, 1357, 1357, 1313],
  [1313, 1313, 1313, 1313, 1313, 2188, 2188, 2188, 1357, 2188, 2188, 1357, 2188, 2188, 2188, 2188, 2188, 0, 1357, 2363, 2188, 2232, 1357, 3188, 2188, 2407, 1357, 2188, 2232, 2188, 2188, 2188, 1357, 2626, 2188, 2188, 2232, 2232, 1926, 2669, 2319, 2188, 2188, 2188, 1313],
  [1313, 1313, 1313, 1313, 1313, 2319, 2188, 2188, 1357, 2319, 2188, 1357, 2188, 2276, 2188, 2276, 2232, 0, 1357, 2232, 2276, 2276, 1357, 2188, 3188, 2319, 1357, 2232, 2757, 2319, 2188, 2188, 1357, 2188, 2276, 2276, 2188, 2188, 1357, 2232, 2188, 2407, 2232, 2232, 2188],
  [1313, 1313, 1313, 1313, 1313, 2450, 2276, 2319, 1357, 2538, 2188, 1357, 2319, 2232, 2319, 2188, 2188, 0, 1357, 2232, 2232, 2232, 1357, 2407, 2319, 3188, 1357, 2232, 2363, 2276, 2188, 2188, 1357, 2363, 2276, 2319, 2494, 2276, 1357, 2232, 2276, 2888, 2276, 2232, 2188],
  [1313, 1313, 1313, 1313, 1313, 1357, 1357, 1357, 2844, 1357, 1357, 2888, 1357, 1357, 1357, 1357, 1357, 0, 2800, 1357, 1357, 1357, 2976, 1357, 1357, 1357, 3063, 1357, 1357, 1357, 1357, 1357, 2713, 1357, 1357, 1357, 1357, 1357, 2800, 1357, 1357, 1357, 2100, 1357, 1313],
  [1313, 1313, 1313, 1313, 1313, 2188, 2188, 2232, 1357, 2188, 2188, 1357, 2188, 2188, 2232, 2626, 2888, 0, 1357, 2188, 2538, 2363, 1357, 2188, 2232, 2232, 1357, 3188, 2188, 2363, 2232, 2232, 1357, 2188, 2188, 2232, 2188, 2319, 1357, 2188, 2232, 2232, 2713, 2538, 2188],
  [1313, 1313, 1313, 1313, 1313, 2582, 2188, 2276, 1357, 2582, 2188, 1357, 2188, 2276, 2232, 2319, 2188, 0, 1357, 2188, 2232, 2232, 1357, 2232, 2757, 2363, 1357, 2188, 3188, 2188, 2188, 2188, 1357, 2188, 2713, 2188, 2232, 2276, 1357, 2188, 2232, 2494, 2188, 2188, 2188],
  [1313, 1313, 1313, 1313, 1313, 2276, 2363, 2232, 1357, 2188, 2232, 1357, 3019, 2232, 2188, 2232, 2188, 0, 1357, 2232, 2276, 2363, 1357, 2188, 2319, 2276, 1357, 2363, 2188, 3188, 2188, 2319, 1357, 2188, 2188, 2976, 2232, 2276, 1357, 2232, 2188, 2319, 2363, 2276, 1313],
  [1313, 1313, 1313, 1313, 1313, 2188, 2188, 2188, 1357, 2188, 2232, 1357, 2188, 2276, 2188, 2188, 2188, 0, 1357, 2276, 2232, 2188, 1357, 2188, 2188, 2188, 1357, 2232, 2188, 2188, 3188, 2319, 1357, 2232, 2188, 2188, 2188, 2188, 1357, 2232, 2232, 2188, 2188, 2188, 1313],
  [1313, 1313, 1313, 1313, 1313, 2232, 2188, 2232, 1357, 2188, 2582, 1357, 2232, 2757, 2232, 2188, 2188, 0, 1357, 2188, 2188, 2363, 1357, 2188, 2188, 2188, 1357, 2232, 2188, 2319, 2319, 3188, 1357, 2188, 2232, 2319, 2232, 2232, 1357, 2188, 2188, 2232, 2232, 2188, 1313],
  [1313, 1313, 1313, 1313, 1313, 1357, 1357, 1357, 2757, 1357, 1357, 2800, 1357, 1357, 1357, 1357, 1357, 0, 2932, 1357, 1357, 1357, 2757, 1357, 1357, 1357, 2713, 1357, 1357, 1357, 1357, 1357, 3063, 1357, 1357, 1357, 1357, 1357, 2932, 1357, 1357, 1357, 1357, 1357, 1313],
  [1313, 1313, 1313, 1313, 1313, 2188, 2188, 2188, 1357, 2188, 2188, 1357, 2188, 2188, 2188, 2188, 2188, 0, 1357, 2626, 2188, 2188, 1357, 2626, 2188, 2363, 1357, 2188, 2188, 2188, 2232, 2188, 1357, 3188, 2188, 2188, 2188, 2188, 1357, 2363, 2276, 2188, 2188, 2188, 1313],
  [1313, 1313, 1313, 1313, 1313, 2538, 2188, 2188, 1357, 2450, 2188, 1357, 2188, 2188, 2188, 2188, 2188, 0, 1357, 2188, 2188, 2188, 1357, 2188, 2276, 2276, 1357, 2188, 2713, 2188, 2188, 2232, 1357, 2188, 3188, 2188, 2188, 2232, 1357, 2188, 2188, 2669, 2188, 2188, 2188],
  [1313, 1313, 1313, 1313, 1313, 2276, 2188, 2276, 1357, 2800, 2188, 1357, 2538, 2232, 2232, 2276, 2363, 0, 1357, 2188, 2232, 2626, 1357, 2188, 2276, 2319, 1357, 2232, 2188, 2976, 2188, 2319, 1357, 2188, 2188, 3188, 2276, 2319, 1357, 2188, 2232, 2450, 2363, 2494, 1313],
  [1313, 1313, 1313, 1313, 1313, 2232, 2494, 2450, 1357, 2276, 2188, 1357, 2188, 2188, 2976, 2319, 2232, 0, 1357, 2188, 2669, 2232, 1357, 2232, 2188, 2494, 1357, 2188, 2232, 2232, 2188, 2232, 1357, 2188, 2188, 2276, 3188, 2319, 1357, 2188, 2188, 2276, 2232, 2626, 1313],
  [1313, 1313, 1313, 1313, 1313, 2363, 2669, 2450, 1357, 2188, 2188, 1357, 2319, 2232, 2232, 2319, 2188, 0, 1357, 2188, 2407, 2713, 1357, 2232, 2188, 2276, 1357, 2319, 2276, 2276, 2188, 2232, 1357, 2188, 2232, 2319, 2319, 3188, 1357, 2188, 2188, 2232, 2188, 2188, 2188],
  [1313, 1313, 1313, 1313, 1313, 1357, 1357, 1357, 2713, 1357, 1357, 2844, 1357, 1357, 1357, 1357, 1357, 0, 2713, 1357, 1357, 1357, 2669, 1926, 1357, 1357, 2800, 1357, 1357, 1357, 1357, 1357, 2932, 1357, 1357, 1357, 1357, 1357, 3063, 2013, 2100, 1357, 1357, 1357, 1313],
  [1313, 1313, 1313, 1313, 1313, 2188, 2188, 2188, 1357, 2188, 2188, 1357, 2188, 2188, 2188, 2188, 2188, 0, 1357, 2800, 2188, 2232, 1357, 2669, 2232, 2232, 1357, 2188, 2188, 2232, 2232, 2188, 1357, 2363, 2188, 2188, 2188, 2188, 2013, 3188, 2888, 2363, 2188, 2188, 1313],
  [1313, 1313, 1313, 1313, 1313, 2276, 2188, 2188, 1357, 2188, 2188, 1357, 2232, 2188, 2188, 2232, 2188, 0, 1357, 2450, 2188, 2188, 1357, 2319, 2188, 2276, 1357, 2232, 2232, 2188, 2232, 2188, 1357, 2276, 2188, 2232, 2188, 2188, 2100, 2888, 3188, 2232, 2188, 2232, 1313],
  [1313, 1313, 1313, 1313, 1313, 2363, 2188, 2232, 1357, 3107, 2232, 1357, 2276, 2276, 2232, 2188, 2188, 0, 1357, 2232, 2188, 2232, 1357, 2188, 2407, 2888, 1357, 2232, 2494, 2319, 2188, 2232, 1357, 2188, 2669, 2450, 2276, 2232, 1357, 2363, 2232, 3188, 2276, 2188, 2188],
  [1313, 1313, 1313, 1313, 1313, 2276, 2363, 2232, 1357, 2188, 2232, 1357, 2319, 2276, 2232, 2319, 2494, 0, 1357, 2188, 2276, 2232, 1357, 2188, 2232, 2276, 2100, 2713, 2188, 2363, 2188, 2232, 1357, 2188, 2188, 2363, 2232, 2188, 1357, 2188, 2188, 2276, 3188, 2363, 1313],
  [1313, 1313, 1313, 1313, 1313, 2188, 2319, 2232, 1357, 2188, 2188, 1357, 2319, 2188, 2319, 2363, 2363, 0, 1357, 2188, 2319, 2363, 1357, 2188, 2232, 2232, 1357, 2538, 2188, 2276, 2188, 2188, 1357, 2188, 2188, 2494, 2626, 2188, 1357, 2188, 2232, 2188, 2363, 3188, 1313],
  [1313, 1313, 1313, 1313, 1313, 1313, 1313, 2188, 1313, 2188, 2188, 1313, 1313, 2188, 1313, 2188, 1313, 1313, 1313, 1313, 2188, 2188, 1313, 1313, 2188, 2188, 1313, 2188, 2188, 1313, 1313, 1313, 1313, 1313, 2188, 1313, 1313, 2188, 1313, 1313, 1313, 2188, 1313, 1313, 3188]
]
/-- scores of the model `asjp_el` times 100 -/
def m_asjp_el : List (List Int) := m_asjp_el_nat.map fun r => r.map fun v => (v : Int) - 2188
theorem m_asjp_el_table : diagDomTable m_asjp_el = true :=
  diagDomTable_shift 2188 m_asjp_el_nat (by decide +kernel)
theorem m_asjp_el_dom : DiagDom (scorerOf m_asjp_el 100) := diagDom_of_table _ _ (by decide) m_asjp_el_table

/-- scores of the model `cv` times 1, plus 100 (natural numbers elaborate fast) -/
def m_cv_nat : List (List Nat) := [
  [100, 0, 0, 0, 0],
  [0, 101, 0, 0, 0],
  [0, 0, 110, 0, 0],
  [0, 0, 0, 110, 0],
  [0, 0, 0, 0, 110]
]
/-- scores of the model `cv` times 1 -/
def m_cv : List (List Int) := m_cv_nat.map fun r => r.map fun v => (v : Int) - 100
theorem m_cv_table : diagDomTable m_cv = true :=
  diagDomTable_shift 100 m_cv_nat (by decide +kernel)
theorem m_cv_dom : DiagDom (scorerOf m_cv 1) := diagDom_of_table _ _ (by decide) m_cv_table

/-- scores of the model `dolgo` times 1, plus 100 (natural numbers elaborate fast) -/
def m_dolgo_nat : List (List Nat) := [
  [100, 0, 0, 0, 0, 0, 0, 0, 0, 0, 0, 0, 0, 0, 0],
  [0, 100, 100, 100, 100, 100, 100, 100, 100, 100, 100, 100, 100, 100, 100],
  [0, 100, 102, 80, 80, 80, 80, 80, 80, 80, 80, 80, 80, 80, 80],
  [0, 100, 80, 110, 100, 100, 100, 100, 100, 100, 100, 100, 90, 100, 80],
  [0, 100, 80, 100, 110, 100, 100, 100, 100, 100, 100, 100, 90, 100, 80],
  [0, 100, 80, 100, 100, 110, 100, 100, 100, 100, 100, 100, 90, 100, 80],
  [0, 100, 80, 100, 100, 100, 110, 100, 100, 100, 100, 100, 90, 100, 80],
  [0, 100, 80, 100, 100, 100, 100, 110, 100, 100, 100, 100, 90, 100, 80],
  [0, 100, 80, 100, 100, 100, 100, 100, 110, 100, 100, 100, 90, 100, 80],
  [0, 100, 80, 100, 100, 100, 100, 100, 100, 110, 100, 100, 90, 100, 80],
  [0, 100, 80, 100, 100, 100, 100, 100, 100, 100, 110, 100, 90, 100, 80],
  [0, 100, 80, 100, 100, 100, 100, 100, 100, 100, 100, 110, 90, 100, 80],
  [0, 100, 80, 90, 90, 90, 90, 90, 90, 90, 90, 90, 105, 90, 80],
  [0, 100, 80, 100, 100, 100, 100, 100, 100, 100, 100, 100, 90, 110, 80],
  [0, 100, 80, 80, 80, 80, 80, 80, 80, 80, 80, 80, 80, 80, 100]
]
/-- scores of the model `dolgo` times 1 -/
def m_dolgo : List (List Int) := m_dolgo_nat.map fun r => r.map fun v => (v : Int) - 100
theorem m_dolgo_table : diagDomTable m_dolgo = true :=
  diagDomTable_shift 100 m_dolgo_nat (by decide +kernel)
theorem m_dolgo_dom : DiagDom (scorerOf m_dolgo 1) := diagDom_of_table _ _ (by decide) m_dolgo_table

/-- scores of the model `dolgo_el` times 1, plus 100 (natural numbers elaborate fast) -/
def m_dolgo_el_nat : List (List Nat) := [
  [100, 0, 0, 0, 0, 0, 0, 0, 0, 0, 0, 0, 0, 0, 0],
  [0, 100, 100, 100, 100, 100, 100, 100, 100, 100, 100, 100, 100, 100, 100],
  [0, 100, 102, 80, 80, 80, 80, 80, 80, 80, 80, 80, 80, 80, 80],
  [0, 100, 80, 110, 100, 100, 100, 100, 100, 100, 100, 100, 90, 100, 80],
  [0, 100, 80, 100, 110, 100, 100, 100, 100, 100, 100, 100, 90, 100, 80],
  [0, 100, 80, 100, 100, 110, 100, 100, 100, 100, 100, 100, 90, 100, 80],
  [0, 100, 80, 100, 100, 100, 110, 100, 100, 100, 100, 100, 90, 100, 80],
  [0, 100, 80, 100, 100, 100, 100, 110, 100, 100, 100, 100, 90, 100, 80],
  [0, 100, 80, 100, 100, 100, 100, 100, 110, 100, 100, 100, 90, 100, 80],
  [0, 100, 80, 100, 100, 100, 100, 100, 100, 110, 100, 100, 90, 100, 80],
  [0, 100, 80, 100, 100, 100, 100, 100, 100, 100, 110, 100, 90, 100, 80],
  [0, 100, 80, 100, 100, 100, 100, 100, 100, 100, 100, 110, 90, 100, 80],
  [0, 100, 80, 90, 90, 90, 90, 90, 90, 90, 90, 90, 105, 90, 80],
  [0, 100, 80, 100, 100, 100, 100, 100, 100, 100, 100, 100, 90, 110, 80],
  [0, 100, 80, 80, 80, 80, 80, 80, 80, 80, 80, 80, 80, 80, 100]
]
/-- scores of the model `dolgo_el` times 1 -/
def m_dolgo_el : List (List Int) := m_dolgo_el_nat.map fun r => r.map fun v => (v : Int) - 100
theorem m_dolgo_el_table : diagDomTable m_dolgo_el = true :=
  diagDomTable_shift 100 m_dolgo_el_nat (by decide +kernel)
theorem m_dolgo_el_dom : DiagDom (scorerOf m_dolgo_el 1) := diagDom_of_table _ _ (by decide) m_dolgo_el_table

/-- scores of the model `jaeger` times 100, plus 2188 (natural numbers elaborate fast) -/
def m_jaeger_nat : List (List Nat) := [
  [2587, 2278, 1762, 2407, 2407, 2407, 2407, 2407, 1750, 1313, 1747, 1599, 0, 1839, 1520, 1714, 1851, 1926, 2204, 1698, 1313, 1356, 1512, 1563, 1631, 1641, 1485, 1462, 1770, 2083, 1604, 1934, 1395, 1836, 1639, 1613, 1282, 1613, 1466, 1592, 1662, 1366, 2163, 1324, 1644, 1396, 1969],
  [2278, 2715, 1845, 2407, 2407, 2407, 2407, 2407, 2174, 1313, 1991, 1913, 0, 2084, 1834, 2028, 1901, 2009, 1794, 1781, 1313, 1670, 1716, 1876, 1945, 1955, 1799, 1776, 1740, 1805, 1918, 1970, 1709, 1797, 1814, 1927, 1596, 1927, 1780, 1711, 1746, 1680, 2034, 1638, 1820, 1710, 1973],
  [1762, 1845, 2558, 1313, 1313, 1313, 1313, 1313, 1768, 1313, 1585, 1645, 0, 1787, 1622, 2180, 1702, 1977, 2062, 1444, 2188, 1264, 2123, 2173, 1648, 2415, 1876, 2053, 1955, 1993, 2152, 1743, 1303, 1902, 2100, 1715, 1684, 1521, 2040, 1963, 1984, 1661, 1923, 1603, 2305, 2165, 1851],
  [2407, 2407, 1313, 2626, 2407, 2407, 2407, 2407, 1313, 1313, 1313, 1313, 0, 1313, 1313, 1313, 1313, 1313, 1313, 1313, 1313, 1313, 1313, 1313, 1313, 1313, 1313, 1313, 1313, 1313, 1313, 1313, 1313, 1313, 1313, 1313, 1313, 1313, 1313, 1313, 1313, 1313, 1313, 1313, 1313, 1313, 1313],
  [2407, 2407, 1313, 2407, 2626, 2407, 2407, 2407, 1313, 1313, 1313, 1313, 0, 1313, 1313, 1313, 1313, 1313, 1313, 1313, 1313, 1313, 1313, 1313, 1313, 1313, 1313, 1313, 1313, 1313, 1313, 1313, 1313, 1313, 1313, 1313, 1313, 1313, 1313, 1313, 1313, 1313, 1313, 1313, 1313, 1313, 1313],
  [2407, 2407, 1313, 2407, 2407, 2626, 2407, 2407, 1313, 1313, 1313, 1313, 0, 1313, 1313, 1313, 1313, 1313, 1313, 1313, 1313, 1313, 1313, 1313, 1313, 1313, 1313, 1313, 1313, 1313, 1313, 1313, 1313, 1313, 1313, 1313, 1313, 1313, 1313, 1313, 1313, 1313, 1313, 1313, 1313, 1313, 1313],
  [2407, 2407, 1313, 2407, 2407, 2407, 2626, 2407, 1313, 1313, 1313, 1313, 0, 1313, 1313, 1313, 1313, 1313, 1313, 1313, 1313, 1313, 1313, 1313, 1313, 1313, 1313, 1313, 1313, 1313, 1313, 1313, 1313, 1313, 1313, 1313, 1313, 1313, 1313, 1313, 1313, 1313, 1313, 1313, 1313, 1313, 1313],
  [2407, 2407, 1313, 2407, 2407, 2407, 2407, 2626, 1313, 1313, 1313, 1313, 0, 1313, 1313, 1313, 1313, 1313, 1313, 1313, 1313, 1313, 1313, 1313, 1313, 1313, 1313, 1313, 1313, 1313, 1313, 1313, 1313, 1313, 1313, 1313, 1313, 1313, 1313, 1313, 1313, 1313, 1313, 1313, 1313, 1313, 1313],
  [1750, 2174, 1768, 1313, 1313, 1313, 1313, 1313, 2617, 1313, 2229, 1905, 0, 2145, 1716, 1841, 1953, 2310, 2197, 1663, 2188, 1483, 2188, 1620, 1867, 1837, 1612, 2253, 2109, 2289, 1800, 2358, 1660, 2302, 2014, 1900, 1409, 2149, 1593, 1524, 2170, 1492, 1890, 1903, 1962, 1592, 2123],
  [1313, 1313, 1313, 1313, 1313, 1313, 1313, 1313, 1313, 2188, 1313, 1313, 0, 1313, 1313, 1313, 1313, 1313, 1313, 1313, 1313, 1313, 1313, 1313, 1313, 1313, 1313, 1313, 1313, 1313, 1313, 1313, 1313, 1313, 1313, 1313, 1313, 1313, 1313, 1313, 1313, 1313, 1313, 1313, 1313, 1313, 1313],
  [1747, 1991, 1585, 1313, 1313, 1313, 1313, 1313, 2229, 1313, 2534, 2262, 0, 2285, 1573, 1837, 2310, 2053, 1604, 1521, 2188, 1410, 2190, 1547, 1754, 1833, 1539, 2170, 1700, 2021, 1921, 2186, 1448, 2206, 1784, 1667, 1336, 2319, 1520, 1520, 2105, 1419, 1493, 1378, 1629, 2025, 2335],
  [1599, 1913, 1645, 1313, 1313, 1313, 1313, 1313, 1905, 1313, 2262, 2631, 0, 2311, 1495, 1973, 2285, 1970, 1456, 1443, 2188, 1470, 1780, 1469, 1606, 1811, 1530, 2306, 1621, 1674, 2302, 2126, 1370, 1597, 1475, 1657, 1257, 1941, 1442, 1533, 1546, 1341, 1484, 1299, 2092, 1909, 2186],
  [0, 0, 0, 0, 0, 0, 0, 0, 0, 0, 0, 0, 2188, 0, 0, 0, 0, 0, 0, 0, 0, 0, 0, 0, 0, 0, 0, 0, 0, 0, 0, 0, 0, 0, 0, 0, 0, 0, 0, 0, 0, 0, 0, 0, 0, 0, 0],
  [1839, 2084, 1787, 1313, 1313, 1313, 1313, 1313, 2145, 1313, 2285, 2311, 0, 2675, 1666, 2021, 2252, 2450, 1627, 1613, 2188, 1502, 1862, 1709, 1777, 1787, 1631, 1958, 2062, 2196, 1911, 2386, 1541, 2236, 2218, 1759, 1428, 2218, 1613, 1543, 2188, 1512, 1724, 1470, 2148, 1542, 2540],
  [1520, 1834, 1622, 1313, 1313, 1313, 1313, 1313, 1716, 1313, 1573, 1495, 0, 1666, 2431, 1610, 1483, 1591, 1377, 2130, 1357, 1882, 1298, 1389, 1527, 1537, 1381, 1358, 1323, 1387, 1500, 1552, 2219, 1379, 1396, 1509, 2182, 1509, 1363, 1293, 1328, 2042, 1266, 2067, 1402, 1292, 1556],
  [1714, 2028, 2180, 1313, 1313, 1313, 1313, 1313, 1841, 1313, 1837, 1973, 0, 2021, 1610, 2741, 1787, 1786, 1820, 1558, 2188, 1447, 1493, 1981, 2021, 2604, 1576, 1944, 2167, 1971, 2546, 2097, 1485, 2277, 2170, 1813, 1373, 1773, 1736, 1557, 2071, 1456, 1461, 1415, 2309, 2156, 2090],
  [1851, 1901, 1702, 1313, 1313, 1313, 1313, 1313, 1953, 1313, 2310, 2285, 0, 2252, 1483, 1787, 2601, 1936, 1444, 1500, 2188, 1319, 2239, 1636, 1594, 1604, 1448, 2284, 1707, 1870, 1983, 2126, 1358, 2174, 1642, 1576, 1245, 2384, 1729, 1360, 1989, 1329, 1472, 1287, 1815, 2129, 2360],
  [1926, 2009, 1977, 1313, 1313, 1313, 1313, 1313, 2310, 1313, 2053, 1970, 0, 2450, 1591, 1786, 1936, 2652, 2176, 1539, 2188, 1428, 2019, 1744, 1702, 1952, 1667, 1643, 2065, 2063, 1993, 1968, 1467, 2113, 1828, 1685, 1354, 2110, 1538, 1608, 2349, 1437, 1943, 1396, 1738, 1844, 2152],
  [2204, 1794, 2062, 1313, 1313, 1313, 1313, 1313, 2197, 1313, 1604, 1456, 0, 1627, 1377, 1820, 1444, 2176, 2569, 1324, 2407, 1213, 1796, 1792, 1771, 2102, 1573, 1319, 1860, 1840, 2073, 1743, 1523, 1974, 2128, 1649, 1139, 1470, 1664, 2098, 2139, 1223, 2288, 1507, 2043, 2065, 2031],
  [1698, 1781, 1444, 1313, 1313, 1313, 1313, 1313, 1663, 1313, 1521, 1443, 0, 1613, 2130, 1558, 1500, 1539, 1324, 2420, 1357, 2121, 1315, 1337, 1544, 1679, 1329, 1485, 1339, 1671, 1448, 1610, 2111, 1327, 1344, 1526, 2164, 1457, 1449, 1241, 1276, 2149, 1324, 2069, 1350, 1448, 1664],
  [1313, 1313, 2188, 1313, 1313, 1313, 1313, 1313, 2188, 1313, 2188, 2188, 0, 2188, 1357, 2188, 2188, 2188, 2407, 1357, 3188, 1357, 2188, 2188, 2188, 2188, 2188, 2188, 2188, 2232, 2232, 2188, 1357, 2188, 2188, 2188, 1357, 2188, 2188, 2232, 2232, 1357, 2582, 1357, 2188, 2188, 2188],
  [1356, 1670, 1264, 1313, 1313, 1313, 1313, 1313, 1483, 1313, 1410, 1470, 0, 1502, 1882, 1447, 1319, 1428, 1213, 2121, 1357, 2492, 1135, 2061, 1558, 1622, 1218, 1195, 1159, 1223, 1337, 1389, 1920, 1216, 1233, 1346, 1881, 1346, 1199, 1130, 1325, 2242, 1103, 2032, 1238, 1290, 1392],
  [1512, 1716, 2123, 1313, 1313, 1313, 1313, 1313, 2188, 1313, 2190, 1780, 0, 1862, 1298, 1493, 2239, 2019, 1796, 1315, 2188, 1135, 2567, 1451, 1950, 2069, 1458, 2133, 1939, 1448, 1872, 1946, 1312, 2148, 1388, 1979, 1280, 2183, 1588, 1693, 1804, 1144, 1935, 1102, 1798, 2063, 1804],
  [1563, 1876, 2173, 1313, 1313, 1313, 1313, 1313, 1620, 1313, 1547, 1469, 0, 1709, 1389, 1981, 1636, 1744, 1792, 1337, 2188, 2061, 1451, 2485, 2339, 2094, 1965, 1896, 1646, 1721, 2021, 1526, 1264, 1797, 1949, 2194, 1152, 1483, 2285, 1515, 1895, 1607, 1488, 1194, 2175, 1998, 1793],
  [1631, 1945, 1648, 1313, 1313, 1313, 1313, 1313, 1867, 1313, 1754, 1606, 0, 1777, 1527, 2021, 1594, 1702, 1771, 1544, 2188, 1558, 1950, 2339, 2631, 1648, 2136, 1579, 1673, 1728, 1841, 1773, 1402, 1669, 1796, 2405, 1289, 1759, 2434, 1624, 1439, 1534, 1377, 1441, 2211, 1698, 1667],
  [1641, 1955, 2415, 1313, 1313, 1313, 1313, 1313, 1837, 1313, 1833, 1811, 0, 1787, 1537, 2604, 1604, 1952, 2102, 1679, 2188, 1622, 2069, 2094, 1648, 2717, 1936, 1908, 1692, 1962, 2363, 1673, 1412, 1800, 2217, 1630, 1570, 1630, 1484, 2070, 2043, 1452, 1829, 1341, 2234, 2279, 1787],
  [1485, 1799, 1876, 1313, 1313, 1313, 1313, 1313, 1612, 1313, 1539, 1530, 0, 1631, 1381, 1576, 1448, 1667, 1573, 1329, 2188, 1218, 1458, 1965, 2136, 1936, 2529, 1607, 1288, 1352, 1880, 1518, 1257, 1414, 1556, 2309, 1144, 1475, 2232, 2107, 1643, 1227, 1667, 1186, 2038, 1598, 1521],
  [1462, 1776, 2053, 1313, 1313, 1313, 1313, 1313, 2253, 1313, 2170, 2306, 0, 1958, 1358, 1944, 2284, 1643, 1319, 1485, 2188, 1195, 2133, 1896, 1579, 1908, 1607, 2559, 1819, 1703, 1953, 2222, 1233, 2170, 1633, 1962, 1120, 2167, 1374, 1616, 1991, 1204, 1492, 1162, 2309, 1757, 2203],
  [1770, 1740, 1955, 1313, 1313, 1313, 1313, 1313, 2109, 1313, 1700, 1621, 0, 2062, 1323, 2167, 1707, 2065, 1860, 1339, 2188, 1159, 1939, 1646, 1673, 1692, 1288, 1819, 2466, 1934, 2037, 2065, 1198, 2278, 2160, 1595, 1085, 1554, 1269, 1636, 2292, 1168, 1792, 1127, 2076, 1488, 1956],
  [2083, 1805, 1993, 1313, 1313, 1313, 1313, 1313, 2289, 1313, 2021, 1674, 0, 2196, 1387, 1971, 1870, 2063, 1840, 1671, 2232, 1223, 1448, 1721, 1728, 1962, 1352, 1703, 1934, 2496, 1968, 2139, 1684, 1999, 1957, 1769, 1149, 1988, 1734, 1334, 2055, 1233, 1887, 2110, 2057, 1890, 2284],
  [1604, 1918, 2152, 1313, 1313, 1313, 1313, 1313, 1800, 1313, 1921, 2302, 0, 1911, 1500, 2546, 1983, 1993, 2073, 1448, 2232, 1337, 1872, 2021, 1841, 2363, 1880, 1953, 2037, 1968, 2589, 1954, 1375, 2036, 2148, 1994, 1262, 1593, 1878, 1377, 2057, 1346, 1709, 1304, 2286, 2214, 1888],
  [1934, 1970, 1743, 1313, 1313, 1313, 1313, 1313, 2358, 1313, 2186, 2126, 0, 2386, 1552, 2097, 2126, 1968, 1743, 1610, 2188, 1389, 1946, 1526, 1773, 1673, 1518, 2222, 2065, 2139, 1954, 2665, 1427, 2255, 1935, 1784, 1315, 2327, 1499, 1430, 2111, 1398, 1871, 1357, 2007, 1429, 2397],
  [1395, 1709, 1303, 1313, 1313, 1313, 1313, 1313, 1660, 1313, 1448, 1370, 0, 1541, 2219, 1485, 1358, 1467, 1523, 2111, 1357, 1920, 1312, 1264, 1402, 1412, 1257, 1233, 1198, 1684, 1375, 1427, 2400, 1254, 1271, 1384, 2101, 1384, 1238, 1168, 1203, 2042, 1412, 2141, 1277, 1167, 1541],
  [1836, 1797, 1902, 1313, 1313, 1313, 1313, 1313, 2302, 1313, 2206, 1597, 0, 2236, 1379, 2277, 2174, 2113, 1974, 1327, 2188, 1216, 2148, 1797, 1669, 1800, 1414, 2170, 2278, 1999, 2036, 2255, 1254, 2560, 2026, 1667, 1141, 2140, 1743, 1257, 2326, 1225, 1887, 1183, 1973, 1667, 2383],
  [1639, 1814, 2100, 1313, 1313, 1313, 1313, 1313, 2014, 1313, 1784, 1475, 0, 2218, 1396, 2170, 1642, 1828, 2128, 1344, 2188, 1233, 1388, 1949, 1796, 2217, 1556, 1633, 2160, 1957, 2148, 1935, 1271, 2026, 2474, 1650, 1158, 1754, 1916, 1551, 2120, 1242, 1780, 1201, 2063, 2169, 2032],
  [1613, 1927, 1715, 1313, 1313, 1313, 1313, 1313, 1900, 1313, 1667, 1657, 0, 1759, 1509, 1813, 1576, 1685, 1649, 1526, 2188, 1346, 1979, 2194, 2405, 1630, 2309, 1962, 1595, 1769, 1994, 1784, 1384, 1667, 1650, 2630, 1271, 1797, 2343, 1769, 1421, 1355, 1590, 1313, 2307, 1827, 1649],
  [1282, 1596, 1684, 1313, 1313, 1313, 1313, 1313, 1409, 1313, 1336, 1257, 0, 1428, 2182, 1373, 1245, 1354, 1139, 2164, 1357, 1881, 1280, 1152, 1289, 1570, 1144, 1120, 1085, 1149, 1262, 1315, 2101, 1141, 1158, 1271, 2394, 1271, 1125, 1125, 1090, 2133, 1028, 1915, 1164, 1054, 1318],
  [1613, 1927, 1521, 1313, 1313, 1313, 1313, 1313, 2149, 1313, 2319, 1941, 0, 2218, 1509, 1773, 2384, 2110, 1470, 1457, 2188, 1346, 2183, 1483, 1759, 1630, 1475, 2167, 1554, 1988, 1593, 2327, 1384, 2140, 1754, 1797, 1271, 2599, 1456, 1387, 1938, 1355, 1520, 1313, 1790, 1690, 2242],
  [1466, 1780, 2040, 1313, 1313, 1313, 1313, 1313, 1593, 1313, 1520, 1442, 0, 1613, 1363, 1736, 1729, 1538, 1664, 1449, 2188, 1199, 1588, 2285, 2434, 1484, 2232, 1374, 1269, 1734, 1878, 1499, 1238, 1743, 1916, 2343, 1125, 1456, 2568, 1956, 1923, 1209, 1502, 1167, 2193, 1795, 1502],
  [1592, 1711, 1963, 1313, 1313, 1313, 1313, 1313, 1524, 1313, 1520, 1533, 0, 1543, 1293, 1557, 1360, 1608, 2098, 1241, 2232, 1130, 1693, 1515, 1624, 2070, 2107, 1616, 1636, 1334, 1377, 1430, 1168, 1257, 1551, 1769, 1125, 1387, 1956, 2502, 1564, 1139, 1957, 1098, 1605, 1631, 1572],
  [1662, 1746, 1984, 1313, 1313, 1313, 1313, 1313, 2170, 1313, 2105, 1546, 0, 2188, 1328, 2071, 1989, 2349, 2139, 1276, 2232, 1325, 1804, 1895, 1439, 2043, 1643, 1991, 2292, 2055, 2057, 2111, 1203, 2326, 2120, 1421, 1090, 1938, 1923, 1564, 2539, 1284, 2035, 1441, 2023, 1775, 2304],
  [1366, 1680, 1661, 1313, 1313, 1313, 1313, 1313, 1492, 1313, 1419, 1341, 0, 1512, 2042, 1456, 1329, 1437, 1223, 2149, 1357, 2242, 1144, 1607, 1534, 1452, 1227, 1204, 1168, 1233, 1346, 1398, 2042, 1225, 1242, 1355, 2133, 1355, 1209, 1139, 1284, 2366, 1112, 1883, 1248, 1138, 1402],
  [2163, 2034, 1923, 1313, 1313, 1313, 1313, 1313, 1890, 1313, 1493, 1484, 0, 1724, 1266, 1461, 1472, 1943, 2288, 1324, 2582, 1103, 1935, 1488, 1377, 1829, 1667, 1492, 1792, 1887, 1709, 1871, 1412, 1887, 1780, 1590, 1028, 1520, 1502, 1957, 2035, 1112, 2425, 1473, 1721, 1712, 1753],
  [1324, 1638, 1603, 1313, 1313, 1313, 1313, 1313, 1903, 1313, 1378, 1299, 0, 1470, 2067, 1415, 1287, 1396, 1507, 2069, 1357, 2032, 1102, 1194, 1441, 1341, 1186, 1162, 1127, 2110, 1304, 1357, 2141, 1183, 1201, 1313, 1915, 1313, 1167, 1098, 1441, 1883, 1473, 2395, 1206, 1096, 1600],
  [1644, 1820, 2305, 1313, 1313, 1313, 1313, 1313, 1962, 1313, 1629, 2092, 0, 2148, 1402, 2309, 1815, 1738, 2043, 1350, 2188, 1238, 1798, 2175, 2211, 2234, 2038, 2309, 2076, 2057, 2286, 2007, 1277, 1973, 2063, 2307, 1164, 1790, 2193, 1605, 2023, 1248, 1721, 1206, 2477, 2139, 2038],
  [1396, 1710, 2165, 1313, 1313, 1313, 1313, 1313, 1592, 1313, 2025, 1909, 0, 1542, 1292, 2156, 2129, 1844, 2065, 1448, 2188, 1290, 2063, 1998, 1698, 2279, 1598, 1757, 1488, 1890, 2214, 1429, 1167, 1667, 2169, 1827, 1054, 1690, 1795, 1631, 1775, 1138, 1712, 1096, 2139, 2456, 1627],
  [1969, 1973, 1851, 1313, 1313, 1313, 1313, 1313, 2123, 1313, 2335, 2186, 0, 2540, 1556, 2090, 2360, 2152, 2031, 1664, 2188, 1392, 1804, 1793, 1667, 1787, 1521, 2203, 1956, 2284, 1888, 2397, 1541, 2383, 2032, 1649, 1318, 2242, 1502, 1572, 2304, 1402, 1753, 1600, 2038, 1627, 2670]
]
/-- scores of the model `jaeger` times 100 -/
def m_jaeger : List (List Int) := m_jaeger_nat.map fun r => r.map fun v => (v : Int) - 2188
theorem m_jaeger_table : diagDomTable m_jaeger = true :=
  diagDomTable_shift 2188 m_jaeger_nat (by decide +kernel)
theorem m_jaeger_dom : DiagDom (scorerOf m_jaeger 100) := diagDom_of_table _ _ (by decide) m_jaeger_table

/-- scores of the model `jaeger_el` times 100, plus 2188 (natural numbers elaborate fast) -/
def m_jaeger_el_nat : List (List Nat) := [
  [2587, 2278, 1762, 2407, 2407, 2407, 2407, 1750, 1313, 1599, 0, 1839, 1520, 1714, 1851, 1926, 2204, 1698, 1313, 1356, 1512, 1563, 1631, 1641, 1485, 1462, 1770, 2083, 1604, 1934, 1395, 1836, 1639, 1613, 1282, 1613, 1466, 1592, 1662, 1366, 2163, 1324, 1644, 1396, 1969],
  [2278, 2715, 1845, 2407, 2407, 2407, 2407, 2174, 1313, 1913, 0, 2084, 1834, 2028, 1901, 2009, 1794, 1781, 1313, 1670, 1716, 1876, 1945, 1955, 1799, 1776, 1740, 1805, 1918, 1970, 1709, 1797, 1814, 1927, 1596, 1927, 1780, 1711, 1746, 1680, 2034, 1638, 1820, 1710, 1973],
  [1762, 1845, 2558, 1313, 1313, 1313, 1313, 1768, 1313, 1645, 0, 1787, 1622, 2180, 1702, 1977, 2062, 1444, 2188, 1264, 2123, 2173, 1648, 2415, 1876, 2053, 1955, 1993, 2152, 1743, 1303, 1902, 2100, 1715, 1684, 1521, 2040, 1963, 1984, 1661, 1923, 1603, 2305, 2165, 1851],
  [2407, 2407, 1313, 2626, 2407, 2407, 2407, 1313, 1313, 1313, 0, 1313, 1313, 1313, 1313, 1313, 1313, 1313, 1313, 1313, 1313, 1313, 1313, 1313, 1313, 1313, 1313, 1313, 1313, 1313, 1313, 1313, 1313, 1313, 1313, 1313, 1313, 1313, 1313, 1313, 1313, 1313, 1313, 1313, 1313],
  [2407, 2407, 1313, 2407, 2626, 2407, 2407, 1313, 1313, 1313, 0, 1313, 1313, 1313, 1313, 1313, 1313, 1313, 1313, 1313, 1313, 1313, 1313, 1313, 1313, 1313, 1313, 1313, 1313, 1313, 1313, 1313, 1313, 1313, 1313, 1313, 1313, 1313, 1313, 1313, 1313, 1313, 1313, 1313, 1313],
  [2407, 2407, 1313, 2407, 2407, 2626, 2407, 1313, 1313, 1313, 0, 1313, 1313, 1313, 1313, 1313, 1313, 1313, 1313, 1313, 1313, 1313, 1313, 1313, 1313, 1313, 1313, 1313, 1313, 1313, 1313, 1313, 1313, 1313, 1313, 1313, 1313, 1313, 1313, 1313, 1313, 1313, 1313, 1313, 1313],
  [2407, 2407, 1313, 2407, 2407, 2407, 2626, 1313, 1313, 1313, 0, 1313, 1313, 1313, 1313, 1313, 1313, 1313, 1313, 1313, 1313, 1313, 1313, 1313, 1313, 1313, 1313, 1313, 1313, 1313, 1313, 1313, 1313, 1313, 1313, 1313, 1313, 1313, 1313, 1313, 1313, 1313, 1313, 1313, 1313],
  [1750, 2174, 1768, 1313, 1313, 1313, 1313, 2617, 1313, 1905, 0, 2145, 1716, 1841, 1953, 2310, 2197, 1663, 2188, 1483, 2188, 1620, 1867, 1837, 1612, 2253, 2109, 2289, 1800, 2358, 1660, 2302, 2014, 1900, 1409, 2149, 1593, 1524, 2170, 1492, 1890, 1903, 1962, 1592, 2123],
  [1313, 1313, 1313, 1313, 1313, 1313, 1313, 1313, 2188, 1313, 0, 1313, 1313, 1313, 1313, 1313, 1313, 1313, 1313, 1313, 1313, 1313, 1313, 1313, 1313, 1313, 1313, 1313, 1313, 1313, 1313, 1313, 1313, 1313, 1313, 1313, 1313, 1313, 1313, 1313, 1313, 1313, 1313, 1313, 1313],
  [1599, 1913, 1645, 1313, 1313, 1313, 1313, 1905, 1313, 2631, 0, 2311, 1495, 1973, 2285, 1970, 1456, 1443, 2188, 1470, 1780, 1469, 1606, 1811, 1530, 2306, 1621, 1674, 2302, 2126, 1370, 1597, 1475, 1657, 1257, 1941, 1442, 1533, 1546, 1341, 1484, 1299, 2092, 1909, 2186],
  [0, 0, 0, 0, 0, 0, 0, 0, 0, 0, 2188, 0, 0, 0, 0, 0, 0, 0, 0, 0, 0, 0, 0, 0, 0, 0, 0, 0, 0, 0, 0, 0, 0, 0, 0, 0, 0, 0, 0, 0, 0, 0, 0, 0, 0],
  [1839, 2084, 1787, 1313, 1313, 1313, 1313, 2145, 1313, 2311, 0, 2675, 1666, 2021, 2252, 2450, 1627, 1613, 2188, 1502, 1862, 1709, 1777, 1787, 1631, 1958, 2062, 2196, 1911, 2386, 1541, 2236, 2218, 1759, 1428, 2218, 1613, 1543, 2188, 1512, 1724, 1470, 2148, 1542, 2540],
  [1520, 1834, 1622, 1313, 1313, 1313, 1313, 1716, 1313, 1495, 0, 1666, 2431, 1610, 1483, 1591, 1377, 2130, 1357, 1882, 1298, 1389, 1527, 1537, 1381, 1358, 1323, 1387, 1500, 1552, 2219, 1379, 1396, 1509, 2182, 1509, 1363, 1293, 1328, 2042, 1266, 2067, 1402, 1292, 1556],
  [1714, 2028, 2180, 1313, 1313, 1313, 1313, 1841, 1313, 1973, 0, 2021, 1610, 2741, 1787, 1786, 1820, 1558, 2188, 1447, 1493, 1981, 2021, 2604, 1576, 1944, 2167, 1971, 2546, 2097, 1485, 2277, 2170, 1813, 1373, 1773, 1736, 1557, 2071, 1456, 1461, 1415, 2309, 2156, 2090],
  [1851, 1901, 1702, 1313, 1313, 1313, 1313, 1953, 1313, 2285, 0, 2252, 1483, 1787, 2601, 1936, 1444, 1500, 2188, 1319, 2239, 1636, 1594, 1604, 1448, 2284, 1707, 1870, 1983, 2126, 1358, 2174, 1642, 1576, 1245, 2384, 1729, 1360, 1989, 1329, 1472, 1287, 1815, 2129, 2360],
  [1926, 2009, 1977, 1313, 1313, 1313, 1313, 2310, 1313, 1970, 0, 2450, 1591, 1786, 1936, 2652, 2176, 1539, 2188, 1428, 2019, 1744, 1702, 1952, 1667, 1643, 2065, 2063, 1993, 1968, 1467, 2113, 1828, 1685, 1354, 2110, 1538, 1608, 2349, 1437, 1943, 1396, 1738, 1844, 2152],
  [2204, 1794, 2062, 1313, 1313, 1313, 1313, 2197, 1313, 1456, 0, 1627, 1377, 1820, 1444, 2176, 2569, 1324, 2407, 1213, 1796, 1792, 1771, 2102, 1573, 1319, 1860, 1840, 2073, 1743, 1523, 1974, 2128, 1649, 1139, 1470, 1664, 2098, 2139, 1223, 2288, 1507, 2043, 2065, 2031],
  [1698, 1781, 1444, 1313, 1313, 1313, 1313, 1663, 1313, 1443, 0, 1613, 2130, 1558, 1500, 1539, 1324, 2420, 1357, 2121, 1315, 1337, 1544, 1679, 1329, 1485, 1339, 1671, 1448, 1610, 2111, 1327, 1344, 1526, 2164, 1457, 1449, 1241, 1276, 2149, 1324, 2069, 1350, 1448, 1664],
  [1313, 1313, 2188, 1313, 1313, 1313, 1313, 2188, 1313, 2188, 0, 2188, 1357, 2188, 2188, 2188, 2407, 1357, 3188, 1357, 2188, 2188, 2188, 2188, 2188, 2188, 2188, 2232, 2232, 2188, 1357, 2188, 2188, 2188, 1357, 2188, 2188, 2232, 2232, 1357, 2582, 1357, 2188, 2188, 2188],
  [1356, 1670, 1264, 1313, 1313, 1313, 1313, 1483, 1313, 1470, 0, 1502, 1882, 1447, 1319, 1428, 1213, 2121, 1357, 2492, 1135, 2061, 1558, 1622, 1218, 1195, 1159, 1223, 1337, 1389, 1920, 1216, 1233, 1346, 1881, 1346, 1199, 1130, 1325, 2242, 1103, 2032, 1238, 1290, 1392],
  [1512, 1716, 2123, 1313, 1313, 1313, 1313, 2188, 1313, 1780, 0, 1862, 1298, 1493, 2239, 2019, 1796, 1315, 2188, 1135, 2567, 1451, 1950, 2069, 1458, 2133, 1939, 1448, 1872, 1946, 1312, 2148, 1388, 1979, 1280, 2183, 1588, 1693, 1804, 1144, 1935, 1102, 1798, 2063, 1804],
  [1563, 1876, 2173, 1313, 1313, 1313, 1313, 1620, 1313, 1469, 0, 1709, 1389, 1981, 1636, 1744, 1792, 1337, 2188, 2061, 1451, 2485, 2339, 2094, 1965, 1896, 1646, 1721, 2021, 1526, 1264, 1797, 1949, 2194, 1152, 1483, 2285, 1515, 1895, 1607, 1488, 1194, 2175, 1998, 1793],
  [1631, 1945, 1648, 1313, 1313, 1313, 1313, 1867, 1313, 1606, 0, 1777, 1527, 2021, 1594, 1702, 1771, 1544, 2188, 1558, 1950, 2339, 2631, 1648, 2136, 1579, 1673, 1728, 1841, 1773, 1402, 1669, 1796, 2405, 1289, 1759, 2434, 1624, 1439, 1534, 1377, 1441, 2211, 1698, 1667],
  [1641, 1955, 2415, 1313, 1313, 1313, 1313, 1837, 1313, 1811, 0, 1787, 1537, 2604, 1604, 1952, 2102, 1679, 2188, 1622, 2069, 2094, 1648, 2717, 1936, 1908, 1692, 1962, 2363, 1673, 1412, 1800, 2217, 1630, 1570, 1630, 1484, 2070, 2043, 1452, 1829, 1341, 2234, 2279, 1787],
  [1485, 1799, 1876, 1313, 1313, 1313, 1313, 1612, 1313, 1530, 0, 1631, 1381, 1576, 1448, 1667, 1573, 1329, 2188, 1218, 1458, 1965, 2136, 1936, 2529, 1607, 1288, 1352, 1880, 1518, 1257, 1414, 1556, 2309, 1144, 1475, 2232, 2107, 1643, 1227, 1667, 1186, 2038, 1598, 1521],
  [1462, 1776, 2053, 1313, 1313, 1313, 1313, 2253, 1313, 2306, 0, 1958, 1358, 1944, 2284, 1643, 1319, 1485, 2188, 1195, 2133, 1896, 1579, 1908, 1607, 2559, 1819, 1703, 1953, 2222, 1233, 2170, 1633, 1962, 1120, 2167, 1374, 1616, 1991, 1204, 1492, 1162, 2309, 1757, 2203],
  [1770, 1740, 1955, 1313, 1313, 1313, 1313, 2109, 1313, 1621, 0, 2062, 1323, 2167, 1707, 2065, 1860, 1339, 2188, 1159, 1939, 1646, 1673, 1692, 1288, 1819, 2466, 1934, 2037, 2065, 1198, 2278, 2160, 1595, 1085, 1554, 1269, 1636, 2292, 1168, 1792, 1127, 2076, 1488, 1956],
  [2083, 1805, 1993, 1313, 1313, 1313, 1313, 2289, 1313, 1674, 0, 2196, 1387, 1971, 1870, 2063, 1840, 1671, 2232, 1223, 1448, 1721, 1728, 1962, 1352, 1703, 1934, 2496, 1968, 2139, 1684, 1999, 1957, 1769, 1149, 1988, 1734, 1334, 2055, 1233, 1887, 2110, 2057, 1890, 2284],
  [1604, 1918, 2152, 1313, 1313, 1313, 1313, 1800, 1313, 2302, 0, 1911, 1500, 2546, 1983, 1993, 2073, 1448, 2232, 1337, 1872, 2021, 1841, 2363, 1880, 1953, 2037, 1968, 2589, 1954, 1375, 2036, 2148, 1994, 1262, 1593, 1878, 1377, 2057, 1346, 1709, 1304, 2286, 2214, 1888],
  [1934, 1970, 1743, 1313, 1313, 1313, 1313, 2358, 1313, 2126, 0, 2386, 1552, 2097, 2126, 1968, 1743, 1610, 2188, 1389, 1946, 1526, 1773, 1673, 1518, 2222, 2065, 2139, 1954, 2665, 1427, 2255, 1935, 1784, 1315, 2327, 1499, 1430, 2111, 1398, 1871, 1357, 2007, 1429, 2397],
  [1395, 1709, 1303, 1313, 1313, 1313, 1313, 1660, 1313, 1370, 0, 1541, 2219, 1485, 1358, 1467, 1523, 2111, 1357, 1920, 1312, 1264, 1402, 1412, 1257, 1233, 1198, 1684, 1375, 1427, 2400, 1254, 1271, 1384, 2101, 1384, 1238, 1168, 1203, 2042, 1412, 2141, 1277, 1167, 1541],
  [1836, 1797, 1902, 1313, 1313, 1313, 1313, 2302, 1313, 1597, 0, 2236, 1379, 2277, 2174, 2113, 1974, 1327, 2188, 1216, 2148, 1797, 1669, 1800, 1414, 2170, 2278, 1999, 2036, 2255, 1254, 2560, 2026, 1667, 1141, 2140, 1743, 1257, 2326, 1225, 1887, 1183, 1973, 1667, 2383],
  [1639, 1814, 2100, 1313, 1313, 1313, 1313, 2014, 1313, 1475, 0, 2218, 1396, 2170, 1642, 1828, 2128, 1344, 2188, 1233, 1388, 1949, 1796, 2217, 1556, 1633, 2160, 1957, 2148, 1935, 1271, 2026, 2474, 1650, 1158, 1754, 1916, 1551, 2120, 1242, 1780, 1201, 2063, 2169, 2032],
  [1613, 1927, 1715, 1313, 1313, 1313, 1313, 1900, 1313, 1657, 0, 1759, 1509, 1813, 1576, 1685, 1649, 1526, 2188, 1346, 1979, 2194, 2405, 1630, 2309, 1962, 1595, 1769, 1994, 1784, 1384, 1667, 1650, 2630, 1271, 1797, 2343, 1769, 1421, 1355, 1590, 1313, 2307, 1827, 1649],
  [1282, 1596, 1684, 1313, 1313, 1313, 1313, 1409, 1313, 1257, 0, 1428, 2182, 1373, 1245, 1354, 1139, 2164, 1357, 1881, 1280, 1152, 1289, 1570, 1144, 1120, 1085, 1149, 1262, 1315, 2101, 1141, 1158, 1271, 2394, 1271, 1125, 1125, 1090, 2133, 1028, 1915, 1164, 1054, 1318],
  [1613, 1927, 1521, 1313, 1313, 1313, 1313, 2149, 1313, 1941, 0, 2218, 1509, 1773, 2384, 2110, 1470, 1457, 2188, 1346, 2183, 1483, 1759, 1630, 1475, 2167, 1554, 1988, 1593, 2327, 1384, 2140, 1754, 1797, 1271, 2599, 1456, 1387, 1938, 1355, 1520, 1313, 1790, 1690, 2242],
  [1466, 1780, 2040, 1313, 1313, 1313, 1313, 1593, 1313, 1442, 0, 1613, 1363, 1736, 1729, 1538, 1664, 1449, 2188, 1199, 1588, 2285, 2434, 1484, 2232, 1374, 1269, 1734, 1878, 1499, 1238, 1743, 1916, 2343, 1125, 1456, 2568, 1956, 1923, 1209, 1502, 1167, 2193, 1795, 1502],
  [1592, 1711, 1963, 1313, 1313, 1313, 1313, 1524, 1313, 1533, 0, 1543, 1293, 1557, 1360, 1608, 2098, 1241, 2232, 1130, 1693, 1515, 1624, 2070, 2107, 1616, 1636, 1334, 1377, 1430, 1168, 1257, 1551, 1769, 1125, 1387, 1956, 2502, 1564, 1139, 1957, 1098, 1605, 1631, 1572],
  [1662, 1746, 1984, 1313, 1313, 1313, 1313, 2170, 1313, 1546, 0, 2188, 1328, 2071, 1989, 2349, 2139, 1276, 2232, 1325, 1804, 1895, 1439, 2043, 1643, 1991, 2292, 2055, 2057, 2111, 1203, 2326, 2120, 1421, 1090, 1938, 1923, 1564, 2539, 1284, 2035, 1441, 2023, 1775, 2304],
  [1366, 1680, 1661, 1313, 1313, 1313, 1313, 1492, 1313, 1341, 0, 1512, 2042, 1456, 1329, 1437, 1223, 2149, 1357, 2242, 1144, 1607, 1534, 1452, 1227, 1204, 1168, 1233, 1346, 1398, 2042, 1225, 1242, 1355, 2133, 1355, 1209, 1139, 1284, 2366, 1112, 1883, 1248, 1138, 1402],
  [2163, 2034, 1923, 1313, 1313, 1313, 1313, 1890, 1313, 1484, 0, 1724, 1266, 1461, 1472, 1943, 2288, 1324, 2582, 1103, 1935, 1488, 1377, 1829, 1667, 1492, 1792, 1887, 1709, 1871, 1412, 1887, 1780, 1590, 1028, 1520, 1502, 1957, 2035, 1112, 2425, 1473, 1721, 1712, 1753],
  [1324, 1638, 1603, 1313, 1313, 1313, 1313, 1903, 1313, 1299, 0, 1470, 2067, 1415, 1287, 1396, 1507, 2069, 1357, 2032, 1102, 1194, 1441, 1341, 1186, 1162, 1127, 2110, 1304, 1357, 2141, 1183, 1201, 1313, 1915, 1313, 1167, 1098, 1441, 1883, 1473, 2395, 1206, 1096, 1600],
  [1644, 1820, 2305, 1313, 1313, 1313, 1313, 1962, 1313, 2092, 0, 2148, 1402, 2309, 1815, 1738, 2043, 1350, 2188, 1238, 1798, 2175, 2211, 2234, 2038, 2309, 2076, 2057, 2286, 2007, 1277, 1973, 2063, 2307, 1164, 1790, 2193, 1605, 2023, 1248, 1721, 1206, 2477, 2139, 2038],
  [1396, 1710, 2165, 1313, 1313, 1313, 1313, 1592, 1313, 1909, 0, 1542, 1292, 2156, 2129, 1844, 2065, 1448, 2188, 1290, 2063, 1998, 1698, 2279, 1598, 1757, 1488, 1890, 2214, 1429, 1167, 1667, 2169, 1827, 1054, 1690, 1795, 1631, 1775, 1138, 1712, 1096, 2139, 2456, 1627],
  [1969, 1973, 1851, 1313, 1313, 1313, 1313, 2123, 1313, 2186, 0, 2540, 1556, 2090, 2360, 2152, 2031, 1664, 2188, 1392, 1804, 1793, 1667, 1787, 1521, 2203, 1956, 2284, 1888, 2397, 1541, 2383, 2032, 1649, 1318, 2242, 1502, 1572, 2304, 1402, 1753, 1600, 2038, 1627, 2670]
]
/-- scores of the model `jaeger_el` times 100 -/
def m_jaeger_el : List (List Int) := m_jaeger_el_nat.map fun r => r.map fun v => (v : Int) - 2188
theorem m_jaeger_el_table : diagDomTable m_jaeger_el = true :=
  diagDomTable_shift 2188 m_jaeger_el_nat (by decide +kernel)
theorem m_jaeger_el_dom : DiagDom (scorerOf m_jaeger_el 100) := diagDom_of_table _ _ (by decide) m_jaeger_el_table

/-- scores of the model `sca` times 1, plus 20 (natural numbers elaborate fast) -/
def m_sca_nat : List (List Nat) := [
  [30, 20, 0, 0, 0, 0, 0, 0, 20, 10, 20, 20, 20, 10, 20, 24, 10, 20, 24, 20, 20, 20, 10, 20, 20, 20, 20, 10, 20, 10, 0],
  [20, 20, 20, 20, 20, 20, 20, 20, 20, 20, 20, 20, 20, 20, 20, 20, 20, 20, 20, 20, 20, 20, 20, 20, 20, 20, 20, 20, 20, 20, 20],
  [0, 20, 22, 21, 21, 21, 21, 21, 0, 0, 0, 0, 0, 0, 0, 0, 0, 0, 0, 0, 0, 0, 0, 0, 0, 0, 0, 0, 0, 0, 0],
  [0, 20, 21, 22, 21, 21, 21, 21, 0, 0, 0, 0, 0, 0, 0, 0, 0, 0, 0, 0, 0, 0, 0, 0, 0, 0, 0, 0, 0, 0, 0],
  [0, 20, 21, 21, 22, 21, 21, 21, 0, 0, 0, 0, 0, 0, 0, 0, 0, 0, 0, 0, 0, 0, 0, 0, 0, 0, 0, 0, 0, 0, 0],
  [0, 20, 21, 21, 21, 22, 21, 21, 0, 0, 0, 0, 0, 0, 0, 0, 0, 0, 0, 0, 0, 0, 0, 0, 0, 0, 0, 0, 0, 0, 0],
  [0, 20, 21, 21, 21, 21, 22, 21, 0, 0, 0, 0, 0, 0, 0, 0, 0, 0, 0, 0, 0, 0, 0, 0, 0, 0, 0, 0, 0, 0, 0],
  [0, 20, 21, 21, 21, 21, 21, 22, 0, 0, 0, 0, 0, 0, 0, 0, 0, 0, 0, 0, 0, 0, 0, 0, 0, 0, 0, 0, 0, 0, 0],
  [20, 20, 0, 0, 0, 0, 0, 0, 30, 10, 20, 20, 20, 10, 20, 20, 10, 20, 20, 20, 29, 29, 10, 20, 20, 20, 20, 10, 20, 10, 0],
  [10, 20, 0, 0, 0, 0, 0, 0, 10, 25, 10, 10, 10, 24, 10, 10, 24, 14, 10, 10, 10, 10, 24, 10, 10, 10, 10, 24, 14, 24, 0],
  [20, 20, 0, 0, 0, 0, 0, 0, 20, 10, 30, 20, 20, 10, 20, 20, 10, 20, 20, 20, 20, 20, 10, 26, 20, 20, 20, 10, 26, 11, 0],
  [20, 20, 0, 0, 0, 0, 0, 0, 20, 10, 20, 30, 22, 10, 22, 22, 10, 20, 26, 20, 20, 20, 10, 20, 20, 26, 26, 10, 20, 10, 0],
  [20, 20, 0, 0, 0, 0, 0, 0, 20, 10, 20, 22, 30, 10, 20, 22, 10, 20, 20, 20, 20, 20, 10, 20, 20, 26, 26, 10, 20, 10, 0],
  [10, 20, 0, 0, 0, 0, 0, 0, 10, 24, 10, 10, 10, 25, 10, 10, 24, 14, 10, 10, 10, 10, 24, 10, 10, 10, 10, 24, 14, 24, 0],
  [20, 20, 0, 0, 0, 0, 0, 0, 20, 10, 20, 22, 20, 10, 30, 22, 10, 20, 26, 20, 20, 20, 10, 20, 20, 26, 20, 10, 20, 10, 0],
  [24, 20, 0, 0, 0, 0, 0, 0, 20, 10, 20, 22, 22, 10, 22, 30, 10, 20, 20, 20, 20, 20, 10, 20, 20, 26, 20, 10, 20, 10, 0],
  [10, 20, 0, 0, 0, 0, 0, 0, 10, 24, 10, 10, 10, 24, 10, 10, 25, 15, 10, 10, 10, 10, 24, 10, 10, 10, 10, 23, 14, 24, 0],
  [20, 20, 0, 0, 0, 0, 0, 0, 20, 14, 20, 20, 20, 14, 20, 20, 15, 30, 20, 20, 20, 20, 14, 20, 20, 20, 20, 14, 20, 14, 0],
  [24, 20, 0, 0, 0, 0, 0, 0, 20, 10, 20, 26, 20, 10, 26, 20, 10, 20, 30, 20, 20, 20, 10, 20, 20, 22, 20, 10, 20, 10, 0],
  [20, 20, 0, 0, 0, 0, 0, 0, 20, 10, 20, 20, 20, 10, 20, 20, 10, 20, 20, 30, 20, 20, 10, 20, 24, 20, 20, 10, 20, 10, 0],
  [20, 20, 0, 0, 0, 0, 0, 0, 29, 10, 20, 20, 20, 10, 20, 20, 10, 20, 20, 20, 30, 21, 10, 20, 20, 20, 20, 10, 20, 10, 0],
  [20, 20, 0, 0, 0, 0, 0, 0, 29, 10, 20, 20, 20, 10, 20, 20, 10, 20, 20, 20, 21, 30, 10, 20, 20, 20, 20, 10, 20, 10, 0],
  [10, 20, 0, 0, 0, 0, 0, 0, 10, 24, 10, 10, 10, 24, 10, 10, 24, 14, 10, 10, 10, 10, 25, 10, 10, 10, 10, 24, 14, 24, 0],
  [20, 20, 0, 0, 0, 0, 0, 0, 20, 10, 26, 20, 20, 10, 20, 20, 10, 20, 20, 20, 20, 20, 10, 30, 20, 20, 20, 10, 22, 10, 0],
  [20, 20, 0, 0, 0, 0, 0, 0, 20, 10, 20, 20, 20, 10, 20, 20, 10, 20, 20, 24, 20, 20, 10, 20, 30, 20, 20, 10, 20, 10, 0],
  [20, 20, 0, 0, 0, 0, 0, 0, 20, 10, 20, 26, 26, 10, 26, 26, 10, 20, 22, 20, 20, 20, 10, 20, 20, 30, 22, 10, 20, 10, 0],
  [20, 20, 0, 0, 0, 0, 0, 0, 20, 10, 20, 26, 26, 10, 20, 20, 10, 20, 20, 20, 20, 20, 10, 20, 20, 22, 30, 10, 20, 10, 0],
  [10, 20, 0, 0, 0, 0, 0, 0, 10, 24, 10, 10, 10, 24, 10, 10, 23, 14, 10, 10, 10, 10, 24, 10, 10, 10, 10, 25, 14, 24, 0],
  [20, 20, 0, 0, 0, 0, 0, 0, 20, 14, 26, 20, 20, 14, 20, 20, 14, 20, 20, 20, 20, 20, 14, 22, 20, 20, 20, 14, 30, 15, 0],
  [10, 20, 0, 0, 0, 0, 0, 0, 10, 24, 11, 10, 10, 24, 10, 10, 24, 14, 10, 10, 10, 10, 24, 10, 10, 10, 10, 24, 15, 25, 0],
  [0, 20, 0, 0, 0, 0, 0, 0, 0, 0, 0, 0, 0, 0, 0, 0, 0, 0, 0, 0, 0, 0, 0, 0, 0, 0, 0, 0, 0, 0, 20]
]
/-- scores of the model `sca` times 1 -/
def m_sca : List (List Int) := m_sca_nat.map fun r => r.map fun v => (v : Int) - 20
theorem m_sca_table : diagDomTable m_sca = true :=
  diagDomTable_shift 20 m_sca_nat (by decide +kernel)
theorem m_sca_dom : DiagDom (scorerOf m_sca 1) := diagDom_of_table _ _ (by decide) m_sca_table

/-- scores of the model `sca_el` times 1, plus 20 (natural numbers elaborate fast) -/
def m_sca_el_nat : List (List Nat) := [
  [30, 20, 0, 0, 0, 10, 20, 20, 20, 10, 20, 24, 10, 20, 24, 20, 20, 20, 10, 20, 20, 20, 20, 10, 20, 10, 0],
  [20, 20, 20, 20, 20, 20, 20, 20, 20, 20, 20, 20, 20, 20, 20, 20, 20, 20, 20, 20, 20, 20, 20, 20, 20, 20, 20],
  [0, 20, 22, 21, 21, 0, 0, 0, 0, 0, 0, 0, 0, 0, 0, 0, 0, 0, 0, 0, 0, 0, 0, 0, 0, 0, 0],
  [0, 20, 21, 22, 21, 0, 0, 0, 0, 0, 0, 0, 0, 0, 0, 0, 0, 0, 0, 0, 0, 0, 0, 0, 0, 0, 0],
  [0, 20, 21, 21, 22, 0, 0, 0, 0, 0, 0, 0, 0, 0, 0, 0, 0, 0, 0, 0, 0, 0, 0, 0, 0, 0, 0],
  [10, 20, 0, 0, 0, 25, 10, 10, 10, 24, 10, 10, 24, 14, 10, 10, 10, 10, 24, 10, 10, 10, 10, 24, 14, 24, 0],
  [20, 20, 0, 0, 0, 10, 30, 20, 20, 10, 20, 20, 10, 20, 20, 20, 20, 20, 10, 26, 20, 20, 20, 10, 26, 11, 0],
  [20, 20, 0, 0, 0, 10, 20, 30, 22, 10, 22, 22, 10, 20, 26, 20, 20, 20, 10, 20, 20, 26, 26, 10, 20, 10, 0],
  [20, 20, 0, 0, 0, 10, 20, 22, 30, 10, 20, 22, 10, 20, 20, 20, 20, 20, 10, 20, 20, 26, 26, 10, 20, 10, 0],
  [10, 20, 0, 0, 0, 24, 10, 10, 10, 25, 10, 10, 24, 14, 10, 10, 10, 10, 24, 10, 10, 10, 10, 24, 14, 24, 0],
  [20, 20, 0, 0, 0, 10, 20, 22, 20, 10, 30, 22, 10, 20, 26, 20, 20, 20, 10, 20, 20, 26, 20, 10, 20, 10, 0],
  [24, 20, 0, 0, 0, 10, 20, 22, 22, 10, 22, 30, 10, 20, 20, 20, 20, 20, 10, 20, 20, 26, 20, 10, 20, 10, 0],
  [10, 20, 0, 0, 0, 24, 10, 10, 10, 24, 10, 10, 25, 15, 10, 10, 10, 10, 24, 10, 10, 10, 10, 23, 14, 24, 0],
  [20, 20, 0, 0, 0, 14, 20, 20, 20, 14, 20, 20, 15, 30, 20, 20, 20, 20, 14, 20, 20, 20, 20, 14, 20, 14, 0],
  [24, 20, 0, 0, 0, 10, 20, 26, 20, 10, 26, 20, 10, 20, 30, 20, 20, 20, 10, 20, 20, 22, 20, 10, 20, 10, 0],
  [20, 20, 0, 0, 0, 10, 20, 20, 20, 10, 20, 20, 10, 20, 20, 30, 20, 20, 10, 20, 24, 20, 20, 10, 20, 10, 0],
  [20, 20, 0, 0, 0, 10, 20, 20, 20, 10, 20, 20, 10, 20, 20, 20, 30, 21, 10, 20, 20, 20, 20, 10, 20, 10, 0],
  [20, 20, 0, 0, 0, 10, 20, 20, 20, 10, 20, 20, 10, 20, 20, 20, 21, 30, 10, 20, 20, 20, 20, 10, 20, 10, 0],
  [10, 20, 0, 0, 0, 24, 10, 10, 10, 24, 10, 10, 24, 14, 10, 10, 10, 10, 25, 10, 10, 10, 10, 24, 14, 24, 0],
  [20, 20, 0, 0, 0, 10, 26, 20, 20, 10, 20, 20, 10, 20, 20, 20, 20, 20, 10, 30, 20, 20, 20, 10, 22, 10, 0],
  [20, 20, 0, 0, 0, 10, 20, 20, 20, 10, 20, 20, 10, 20, 20, 24, 20, 20, 10, 20, 30, 20, 20, 10, 20, 10, 0],
  [20, 20, 0, 0, 0, 10, 20, 26, 26, 10, 26, 26, 10, 20, 22, 20, 20, 20, 10, 20, 20, 30, 22, 10, 20, 10, 0],
  [20, 20, 0, 0, 0, 10, 20, 26, 26, 10, 20, 20, 10, 20, 20, 20, 20, 20, 10, 20, 20, 22, 30, 10, 20, 10, 0],
  [10, 20, 0, 0, 0, 24, 10, 10, 10, 24, 10, 10, 23, 14, 10, 10, 10, 10, 24, 10, 10, 10, 10, 25, 14, 24, 0],
  [20, 20, 0, 0, 0, 14, 26, 20, 20, 14, 20, 20, 14, 20, 20, 20, 20, 20, 14, 22, 20, 20, 20, 14, 30, 15, 0],
  [10, 20, 0, 0, 0, 24, 11, 10, 10, 24, 10, 10, 24, 14, 10, 10, 10, 10, 24, 10, 10, 10, 10, 24, 15, 25, 0],
  [0, 20, 0, 0, 0, 0, 0, 0, 0, 0, 0, 0, 0, 0, 0, 0, 0, 0, 0, 0, 0, 0, 0, 0, 0, 0, 20]
]
/-- scores of the model `sca_el` times 1 -/
def m_sca_el : List (List Int) := m_sca_el_nat.map fun r => r.map fun v => (v : Int) - 20
theorem m_sca_el_table : diagDomTable m_sca_el = true :=
  diagDomTable_shift 20 m_sca_el_nat (by decide +kernel)
theorem m_sca_el_dom : DiagDom (scorerOf m_sca_el 1) := diagDom_of_table _ _ (by decide) m_sca_el_table

end Verif.Generated.Scorers
