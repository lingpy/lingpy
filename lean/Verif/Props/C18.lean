/-!
# C18 — independence from the enumeration order of hash-ordered containers

* writing scores symmetrically keeps a symmetric matrix symmetric, for any write order and values;
* sorting the elements of a set by a key gives the same list for every enumeration order of the
  set **if the key is injective on the set**; with two elements of equal key (names that coincide
  after lower-casing) the stable sort keeps the enumeration order – the witness below is what
  `unique_sorted` of `parser.py` did with `key=str.lower` up to the repair e91bdb1; since then its key is
  `(x.lower(), x)`, which is injective (the `example` at the end, `C12_names_order_free` for the model of that key).
-/
namespace Verif.Repro

/-- `matrix[a][b] = matrix[b][a] = v` -/
def write {S : Type} (M : Nat → Nat → S) (w : Nat × Nat × S) : Nat → Nat → S :=
  fun i j => if (i = w.1 ∧ j = w.2.1) ∨ (i = w.2.1 ∧ j = w.1) then w.2.2 else M i j

theorem write_symm {S : Type} (M : Nat → Nat → S) (hM : ∀ i j, M i j = M j i) (w : Nat × Nat × S) (i j : Nat) :
    write M w i j = write M w j i := by
  have hc : ((i = w.1 ∧ j = w.2.1) ∨ (i = w.2.1 ∧ j = w.1)) ↔ ((j = w.1 ∧ i = w.2.1) ∨ (j = w.2.1 ∧ i = w.1)) := by
    rw [or_comm, and_comm, and_comm (a := i = w.1)]
  simp only [write, hc, hM i j]

/-- **C18, the language-specific scorer is symmetric** -/
theorem C18_scorer_symmetric {S : Type} (M : Nat → Nat → S) (hM : ∀ i j, M i j = M j i)
    (ws : List (Nat × Nat × S)) : ∀ i j, (ws.foldl write M) i j = (ws.foldl write M) j i :=
  List.foldlRecOn ws write hM fun M hM w _ => write_symm M hM w

/-- both results are sorted permutations of each other, and antisymmetry makes a sorted list unique -/
theorem mergeSort_eq_of_perm {α : Type} (le : α → α → Bool)
    (htrans : ∀ a b c : α, le a b = true → le b c = true → le a c = true)
    (htotal : ∀ a b : α, (le a b || le b a) = true) (l₁ l₂ : List α) (hp : l₁.Perm l₂)
    (hanti : ∀ a ∈ l₁, ∀ b ∈ l₁, le a b = true → le b a = true → a = b) :
    l₁.mergeSort le = l₂.mergeSort le := by
  have p1 := List.mergeSort_perm l₁ le
  have p2 := List.mergeSort_perm l₂ le
  apply List.Perm.eq_of_pairwise _ (List.pairwise_mergeSort htrans htotal l₁)
    (List.pairwise_mergeSort htrans htotal l₂) (p1.trans (hp.trans p2.symm))
  intro a b ha hb
  exact hanti a (p1.mem_iff.mp ha) b (hp.mem_iff.mpr (p2.mem_iff.mp hb))

def leKey {α : Type} (key : α → Nat) (a b : α) : Bool := decide (key a ≤ key b)

/-- **`sorted(set, key=…)` does not depend on the enumeration order of the set when the key is
injective on it.** -/
theorem C18_sorted_order_free {α : Type} (key : α → Nat) (l₁ l₂ : List α) (hp : l₁.Perm l₂)
    (hinj : ∀ a ∈ l₁, ∀ b ∈ l₁, key a = key b → a = b) :
    l₁.mergeSort (leKey key) = l₂.mergeSort (leKey key) := by
  apply mergeSort_eq_of_perm (leKey key) _ _ l₁ l₂ hp
  · intro a ha b hb hab hba
    simp only [leKey, decide_eq_true_eq] at hab hba
    exact hinj a ha b hb (by omega)
  · intro a b c h1 h2
    simp only [leKey, decide_eq_true_eq] at *
    omega
  · intro a b
    simp only [leKey, Bool.or_eq_true, decide_eq_true_eq]
    omega

/-- **Without injectivity the result is the enumeration order**: two enumerations of the same two-element set, equal keys,
different results. -/
theorem C18_sorted_needs_injective :
    [(1 : Nat), 2].mergeSort (leKey fun _ => 0) ≠ [2, 1].mergeSort (leKey fun _ => 0) := by
  rw [List.mergeSort_of_pairwise (by simp [leKey]), List.mergeSort_of_pairwise (by simp [leKey])]
  decide

/-- with the repaired key `(lower(x), x)` – here: any injective refinement – the order is fixed -/
example : [(1 : Nat), 2].mergeSort (leKey id) = [2, 1].mergeSort (leKey id) :=
  C18_sorted_order_free id _ _ (List.Perm.swap _ _ _) (by intro a _ b _ h; exact h)

end Verif.Repro
