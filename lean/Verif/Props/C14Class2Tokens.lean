import Verif.Model.SoundClass
/-!
# C01 / C14 — mapping an aligned class string back onto the tokens

`class2tokens` (the `list.insert` loop as written) inserts gaps at the gap positions of the
aligned class string and leaves the tokens untouched, whenever the class string has as many
non-gap symbols as there are tokens (which C01 proves of every alignment and C14 of every
class string: one class per token).
-/
namespace Verif.SC
variable {α : Type}

def mergeSpec : List Bool → List α → List (Option α)
  | [], ts => ts.map some
  | false :: cs, ts => none :: mergeSpec cs ts
  | true :: cs, t :: ts => some t :: mergeSpec cs ts
  | true :: cs, [] => mergeSpec cs []

theorem go_eq_mergeSpec (cs : List Bool) : ∀ (done : List (Option α)) (ts : List α),
    (cs.filter id).length = ts.length →
    class2tokensGo cs done.length (done ++ ts.map some) = done ++ mergeSpec cs ts := by
  intro done ts h
  fun_induction mergeSpec cs ts generalizing done with
  | case1 ts => simp [class2tokensGo]
  | case2 cs ts ih =>
    have hins : pyInsert (done ++ ts.map some) done.length none = (done ++ [none]) ++ ts.map some := by
      simp [pyInsert]
    have := ih (done ++ [none]) (by simpa using h)
    simp only [List.length_append, List.length_cons, List.length_nil] at this
    simp only [class2tokensGo, Bool.false_eq_true, if_false]
    rw [hins, this]; simp
  | case3 cs t ts ih =>
    have := ih (done ++ [some t]) (by simpa using h)
    simp only [List.length_append, List.length_cons, List.length_nil, List.append_assoc,
      List.cons_append, List.nil_append] at this
    simp only [class2tokensGo, if_true, List.map_cons]
    rw [this]
  | case4 cs => simp at h

/-- the index of the token that position `i` carries -/
def rank (cs : List Bool) (i : Nat) : Nat := ((cs.take i).filter id).length

theorem rank_lt : ∀ (cs : List Bool) (i : Nat), cs[i]? = some true → rank cs i < (cs.filter id).length
  | [], i, h => by simp at h
  | c :: cs, 0, h => by
    obtain rfl : c = true := by simpa using h
    simp [rank]
  | c :: cs, j + 1, h => by
    have := rank_lt cs j (by simpa using h)
    cases c <;> simp [rank] at this ⊢ <;> omega

theorem mergeSpec_getElem? : ∀ (cs : List Bool) (ts : List α) (i : Nat), (cs.filter id).length = ts.length →
    (mergeSpec cs ts)[i]? = cs[i]?.map fun c => if c then ts[rank cs i]? else none
  | [], ts, i, hl => by
    obtain rfl : ts = [] := by simpa using hl.symm
    simp [mergeSpec]
  | false :: cs, ts, 0, _ => rfl
  | false :: cs, ts, j + 1, hl => by
    simpa only [mergeSpec, rank, List.getElem?_cons_succ, List.take_succ_cons, List.filter_cons_of_neg, id,
      Bool.false_eq_true, not_false_eq_true] using mergeSpec_getElem? cs ts j (by simpa using hl)
  | true :: cs, [], _, hl => by simp at hl
  | true :: cs, t :: ts, 0, _ => rfl
  | true :: cs, t :: ts, j + 1, hl => by
    simpa only [mergeSpec, rank, List.getElem?_cons_succ, List.take_succ_cons, List.filter_cons_of_pos, id,
      List.length_cons] using mergeSpec_getElem? cs ts j (by simpa using hl)

theorem class2tokens_eq_mergeSpec (tokens : List α) (classes : List Bool)
    (h : (classes.filter id).length = tokens.length) : class2tokens tokens classes = mergeSpec classes tokens := by
  simpa [class2tokens] using go_eq_mergeSpec classes ([] : List (Option α)) tokens h

/-- **C01/C14, gap re-insertion** -/
theorem C14_class2tokens (tokens : List α) (classes : List Bool)
    (h : (classes.filter id).length = tokens.length) :
    (class2tokens tokens classes).filterMap id = tokens ∧
    (class2tokens tokens classes).length = classes.length ∧
    ∀ i : Nat, ((class2tokens tokens classes)[i]? = some none ↔ classes[i]? = some false) := by
  rw [class2tokens_eq_mergeSpec tokens classes h]
  have h12 : (mergeSpec classes tokens).filterMap id = tokens ∧ (mergeSpec classes tokens).length = classes.length := by
    fun_induction mergeSpec classes tokens with
    | case1 ts => simpa using h.symm
    | case2 cs ts ih => simpa using ih (by simpa using h)
    | case3 cs t ts ih => simpa using ih (by simpa using h)
    | case4 cs => simp at h
  refine ⟨h12.1, h12.2, fun i => ?_⟩
  rw [mergeSpec_getElem? classes tokens i h]
  cases hc : classes[i]? with
  | none => simp
  | some c =>
    cases c with
    | false => simp
    | true => simp [List.getElem?_eq_getElem (h ▸ rank_lt classes i hc)]

/-- local mode: the aligned part de-gaps to `tokens[prefix : len - suffix]` -/
theorem C14_class2tokens_local (tokens : List α) (pre suf : Nat) (mid : List Bool)
    (h : (mid.filter id).length = ((tokens.take (tokens.length - suf)).drop pre).length) :
    (class2tokensLocal tokens pre mid suf).filterMap id = (tokens.take (tokens.length - suf)).drop pre ∧
    (class2tokensLocal tokens pre mid suf).length = mid.length :=
  let r := C14_class2tokens _ mid h
  ⟨r.1, r.2.1⟩

end Verif.SC
