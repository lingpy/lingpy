import Verif.Props.C03Edit
/-!
# C03 — the edit distance is a metric

From the characterisation `C03_edit_eq_lev` (minimum cost over all edit scripts): transposing a script
(insertions ↔ deletions) gives a script of the same cost for the swapped pair, and a script of cost 0 consists of
matches only.  The triangle inequality and the bound by the longer length follow by induction from the first-move
decomposition of optimal scripts.
-/
namespace Verif.Align
variable {α : Type} [DecidableEq α]

theorem editCost_consA (x : α) (a b : List α) : ∀ (ms : List Mv) (i j : Nat),
    editCost (x :: a) b ms i (j+1) = editCost a b ms i j
  | [], _, _ => rfl
  | .up :: ms, i, j => by simp only [editCost, editCost_consA x a b ms]
  | .left :: ms, i, j => by simp only [editCost, editCost_consA x a b ms]
  | .diag :: ms, i, j => by simp only [editCost, editCost_consA x a b ms, List.getElem?_cons_succ]

theorem editCost_le_length (a b : List α) (ms : List Mv) (i j : Nat) : editCost a b ms i j ≤ ms.length := by
  induction ms generalizing i j with
  | nil => simp [editCost]
  | cons m ms ih =>
    cases m <;> simp only [editCost, List.length_cons]
    · have := ih (i+1) j; omega
    · have := ih (i+1) (j+1); split <;> omega
    · have := ih i (j+1); omega

theorem editCost_self (a : List α) (k : Nat) (i : Nat) (h : i + k = a.length) :
    editCost a a (List.replicate k .diag) i i = 0 := by
  induction k generalizing i with
  | zero => simp [editCost]
  | succ k ih =>
    simp only [List.replicate_succ, editCost]
    rw [ih (i+1) (by omega)]
    simp

theorem isPath_replicate_diag (n : Nat) : IsPath n n (List.replicate n .diag) := by
  constructor <;> simp

theorem isPath_up (ms : List Mv) (i j : Nat) : IsPath (i+1) j (.up :: ms) ↔ IsPath i j ms := by
  simp [IsPath]

theorem isPath_left (ms : List Mv) (i j : Nat) : IsPath i (j+1) (.left :: ms) ↔ IsPath i j ms := by
  simp [IsPath]

theorem isPath_diag (ms : List Mv) (i j : Nat) : IsPath (i+1) (j+1) (.diag :: ms) ↔ IsPath i j ms := by
  simp [IsPath]

def swapMv : Mv → Mv
  | .up => .left
  | .left => .up
  | .diag => .diag

theorem isPath_swap (i j : Nat) (ms : List Mv) (h : IsPath i j ms) : IsPath j i (ms.map swapMv) := by
  unfold IsPath at *
  have key : ∀ (l : List Mv), ((l.map swapMv).filter (· ≠ .left)).length = (l.filter (· ≠ .up)).length ∧
      ((l.map swapMv).filter (· ≠ .up)).length = (l.filter (· ≠ .left)).length := by
    intro l
    induction l with
    | nil => simp
    | cons m ms ih =>
      simp only [ne_eq, decide_not] at ih
      cases m <;> simp [swapMv, ih.1, ih.2]
  rw [(key ms).1, (key ms).2]
  exact ⟨h.2, h.1⟩

theorem editCost_swap (a b : List α) : ∀ (ms : List Mv) (i j : Nat),
    editCost b a (ms.map swapMv) j i = editCost a b ms i j
  | [], _, _ => rfl
  | .up :: ms, i, j => by simp [editCost, swapMv, editCost_swap a b ms (i+1) j]
  | .left :: ms, i, j => by simp [editCost, swapMv, editCost_swap a b ms i (j+1)]
  | .diag :: ms, i, j => by
    simp only [List.map_cons, swapMv, editCost, editCost_swap a b ms (i+1) (j+1), @eq_comm _ b[i]? a[j]?]

theorem editCost_consB (y : α) (a b : List α) (ms : List Mv) (i j : Nat) :
    editCost a (y :: b) ms (i+1) j = editCost a b ms i j := by
  rw [← editCost_swap, editCost_consA, editCost_swap]

theorem editDist_le_swap (a b : List α) : editDist a b ≤ editDist b a := by
  obtain ⟨_, ms, hp, hc⟩ := C03_edit_eq_lev b a
  have := (C03_edit_eq_lev a b).1 (ms.map swapMv) (isPath_swap _ _ ms hp)
  rw [editCost_swap b a ms 0 0] at this
  omega

/-- **C03: the edit distance is symmetric** -/
theorem C03_edit_symm (a b : List α) : editDist a b = editDist b a :=
  Nat.le_antisymm (editDist_le_swap a b) (editDist_le_swap b a)

/-! The recursion of the textbook `lev` in two halves: each possible first column followed by an optimal script of
the rest is a script, and an optimal script starts with one of them. -/

theorem editDist_cons_le (x y : α) (a b : List α) :
    editDist (x :: a) (y :: b) ≤ editDist a (y :: b) + 1 ∧
    editDist (x :: a) (y :: b) ≤ editDist (x :: a) b + 1 ∧
    editDist (x :: a) (y :: b) ≤ editDist a b + (if x = y then 0 else 1) := by
  have hle := (C03_edit_eq_lev (x :: a) (y :: b)).1
  simp only [List.length_cons] at hle
  obtain ⟨_, m1, p1, c1⟩ := C03_edit_eq_lev a (y :: b)
  obtain ⟨_, m2, p2, c2⟩ := C03_edit_eq_lev (x :: a) b
  obtain ⟨_, m3, p3, c3⟩ := C03_edit_eq_lev a b
  have h1 := hle (.left :: m1) ((isPath_left ..).mpr p1)
  have h2 := hle (.up :: m2) ((isPath_up ..).mpr p2)
  have h3 := hle (.diag :: m3) ((isPath_diag ..).mpr p3)
  simp only [editCost, editCost_consA, editCost_consB, List.getElem?_cons_zero, Option.some.injEq] at h1 h2 h3
  omega

theorem editDist_cons_ge (x y : α) (a b : List α) :
    editDist a (y :: b) + 1 ≤ editDist (x :: a) (y :: b) ∨
    editDist (x :: a) b + 1 ≤ editDist (x :: a) (y :: b) ∨
    editDist a b + (if x = y then 0 else 1) ≤ editDist (x :: a) (y :: b) := by
  obtain ⟨_, ms, hp, hc⟩ := C03_edit_eq_lev (x :: a) (y :: b)
  simp only [List.length_cons] at hp
  rcases ms with _ | ⟨m, ms⟩
  · simp [IsPath] at hp
  · cases m with
    | up =>
      have := (C03_edit_eq_lev (x :: a) b).1 ms ((isPath_up ..).mp hp)
      simp only [editCost, editCost_consB] at hc
      omega
    | left =>
      have := (C03_edit_eq_lev a (y :: b)).1 ms ((isPath_left ..).mp hp)
      simp only [editCost, editCost_consA] at hc
      omega
    | diag =>
      have := (C03_edit_eq_lev a b).1 ms ((isPath_diag ..).mp hp)
      simp only [editCost, editCost_consA, editCost_consB, List.getElem?_cons_zero, Option.some.injEq] at hc
      omega

theorem editDist_nil_left (b : List α) : editDist ([] : List α) b = b.length := by
  have : ∀ i, (T (editKernel ([] : List α) b).toFill 0 i 0).1 = i := by
    intro i
    induction i with
    | zero => rw [T_corner]; rfl
    | succ i ih => rw [T_col0]; exact congrArg (· + 1) ih
  rw [editDist_eq_T]; exact this _

theorem editDist_nil_right (a : List α) : editDist a ([] : List α) = a.length := by
  rw [C03_edit_symm, editDist_nil_left]

theorem C03_edit_self (a : List α) : editDist a a = 0 := by
  induction a with
  | nil => exact editDist_nil_left []
  | cons x a ih =>
    have := (editDist_cons_le x x a a).2.2
    rw [ih, if_pos rfl] at this
    omega

theorem C03_edit_le_max (a b : List α) : editDist a b ≤ max a.length b.length := by
  induction a generalizing b with
  | nil => rw [editDist_nil_left]; exact Nat.le_max_right _ _
  | cons x a ih =>
    cases b with
    | nil => rw [editDist_nil_right]; exact Nat.le_max_left _ _
    | cons y b =>
      have := ih b
      have := (editDist_cons_le x y a b).2.2
      simp only [List.length_cons]
      split at this <;> omega

theorem zero_cost_eq : ∀ (ms : List Mv) (a b : List α), editCost a b ms 0 0 = 0 → IsPath b.length a.length ms → a = b
  | [], a, b, _, hp => by
    simp only [IsPath, List.filter_nil, List.length_nil] at hp
    rw [List.eq_nil_of_length_eq_zero hp.1.symm, List.eq_nil_of_length_eq_zero hp.2.symm]
  | .up :: ms, a, b, hc, _ => by simp [editCost] at hc
  | .left :: ms, a, b, hc, _ => by simp [editCost] at hc
  | .diag :: ms, [], b, _, hp => by simp [IsPath] at hp
  | .diag :: ms, _ :: _, [], _, hp => by simp [IsPath] at hp
  | .diag :: ms, x :: a, y :: b, hc, hp => by
    simp only [editCost, editCost_consA, editCost_consB, List.getElem?_cons_zero, Option.some.injEq,
      Nat.add_eq_zero_iff, ite_eq_left_iff, Nat.one_ne_zero, imp_false, Decidable.not_not] at hc
    rw [hc.1, zero_cost_eq ms a b hc.2 ((isPath_diag ..).mp hp)]

/-- **C03: distance 0 exactly for equal sequences** -/
theorem C03_edit_zero_iff (a b : List α) : editDist a b = 0 ↔ a = b := by
  constructor
  · intro h
    obtain ⟨_, ms, hp, hc⟩ := C03_edit_eq_lev a b
    exact zero_cost_eq ms a b (hc.trans h) hp
  · rintro rfl; exact C03_edit_self a

theorem length_le_add_editDist (b c : List α) : c.length ≤ b.length + editDist b c := by
  induction b generalizing c with
  | nil => rw [editDist_nil_left]; omega
  | cons y b ihb =>
    induction c with
    | nil => simp
    | cons z c ihc =>
      have h1 := ihb (z :: c)
      have h3 := ihb c
      simp only [List.length_cons] at *
      rcases editDist_cons_ge y z b c with h | h | h <;> omega

theorem editDist_triangle (a b c : List α) : editDist a c ≤ editDist a b + editDist b c := by
  induction a generalizing b c with
  | nil =>
    have := length_le_add_editDist b c
    rw [editDist_nil_left, editDist_nil_left]; omega
  | cons x a iha =>
    induction b generalizing c with
    | nil =>
      have := C03_edit_le_max (x :: a) c
      rw [editDist_nil_right, editDist_nil_left]; omega
    | cons y b ihb =>
      -- By the first columns of optimal scripts of the two legs.  First leg deletes `x`: `iha`.  Else second leg inserts
      -- `z`: `ihc`.  Else the second leg uses up `y`: `ihb` if the first leg inserted `y`, `iha` if it matched `x` with `y`.
      induction c with
      | nil =>
        have := length_le_add_editDist (y :: b) (x :: a)
        rw [editDist_nil_right, editDist_nil_right, C03_edit_symm (x :: a)]; omega
      | cons z c ihc =>
        obtain ⟨u1, u2, u3⟩ := editDist_cons_le x z a c
        rcases editDist_cons_ge x y a b with h | h | h
        · have := iha (y :: b) (z :: c); omega
        · rcases editDist_cons_ge y z b c with g | g | g
          · have := ihb (z :: c); omega
          · have := ihc; omega
          · have := ihb c; omega
        · rcases editDist_cons_ge y z b c with g | g | g
          · have := iha b (z :: c); omega
          · have := ihc; omega
          · have := iha b c
            have hxz : (if x = z then 0 else 1) ≤ (if x = y then 0 else 1) + (if y = z then 0 else 1) := by
              by_cases h1 : x = y
              · subst h1; simp
              · rw [if_neg h1]; split <;> omega
            omega

-- `n` and its equation are stated without need: `editDist_triangle`
/-- **C03: the triangle inequality** – with symmetry and `d = 0 ↔ equal` the edit distance is a metric -/
theorem C03_edit_triangle : ∀ (n : Nat) (a b c : List α), a.length + b.length + c.length = n →
    editDist a c ≤ editDist a b + editDist b c :=
  fun _ a b c _ => editDist_triangle a b c

end Verif.Align
