import Verif.Model.TreeDist
/-!
# C15 — the bipartition scanner reads exactly the clades of the printed tree

`scan (elems t) = clades t`: the bracket-counting loop of `get_bipartition`, run on the
comma-separated elements of the printed tree, returns the leaf lists of the internal nodes
(post-order), for every tree whose internal nodes have at least two children.  Since the
distances are functions of these clade *sets* only, they cannot depend on the order in
which children are written.
-/
namespace Verif.TreeDist

theorem scanFrom_append (es1 es2 : List Elem) (i : Nat) (st : ScanSt) :
    scanFrom (es1 ++ es2) i st = (scanFrom es1 i st).bind (scanFrom es2 (i + es1.length)) := by
  induction es1 generalizing i st with
  | nil => simp [scanFrom]
  | cons e es ih =>
    simp only [List.cons_append, scanFrom, List.length_cons]
    cases h : scanElem st i e with
    | none => simp
    | some st' =>
      simp only [Option.bind_some]
      rw [ih]
      congr 2
      omega

mutual
theorem elemsWith_length : ∀ (o c : Nat) (t : Tree), (elemsWith o c t).length = (leaves t).length
  | o, c, .leaf n => by simp [elemsWith, leaves]
  | o, c, .node cs => by simp only [elemsWith, leaves]; exact elemsL_length (o+1) (c+1) cs
theorem elemsL_length : ∀ (o c : Nat) (ts : List Tree), (elemsL o c ts).length = (leavesL ts).length
  | _, _, [] => by simp [elemsL, leavesL]
  | o, c, [t] => by simp only [elemsL, leavesL, List.append_nil]; exact elemsWith_length o c t
  | o, c, t :: t' :: ts => by
    simp only [elemsL, leavesL, List.length_append]
    rw [elemsWith_length o 0 t, elemsL_length 0 c (t' :: ts)]
    simp [leavesL]
end

theorem closeLoop_succ (c : Nat) (stack : List Nat) (s : Nat) (ind : List Nat) (parts : List (List Nat)) :
    closeLoop (c+1) ⟨stack, s :: ind, parts⟩ = closeLoop c ⟨stack, ind, parts ++ [stack.drop s]⟩ := by
  simp [closeLoop]

-- The source looks for `)` only in an element without `(` (`if … elif`): a leaf written with both loses its
-- closing brackets.  Hence the third hypothesis, and `Proper`, which keeps `(x)` out.
mutual
theorem scan_tree : ∀ (t : Tree), Proper t = true → ∀ (o c : Nat),
    (o = 0 ∨ c = 0 ∨ ∃ cs, t = .node cs) →
    ∀ (s0 I : List Nat) (P : List (List Nat)),
      scanFrom (elemsWith o c t) s0.length ⟨s0, I, P⟩ =
        closeLoop c ⟨s0 ++ leaves t, List.replicate o s0.length ++ I, P ++ clades t⟩
  | .leaf n, _, o, c, h, s0, I, P => by
    have hoc : o = 0 ∨ c = 0 := h.imp_right fun h => h.resolve_right (fun ⟨_, e⟩ => nomatch e)
    simp only [elemsWith, scanFrom, leaves, clades, List.append_nil, scanElem]
    rcases hoc with rfl | rfl
    · cases c with
      | zero => simp [closeLoop]
      | succ c => simp
    · cases o with
      | zero => simp [closeLoop]
      | succ o => simp [closeLoop]
  | .node cs, hp, o, c, _, s0, I, P => by
    simp only [Proper, Bool.and_eq_true, decide_eq_true_eq] at hp
    simp only [elemsWith, leaves, clades]
    rw [scan_list cs hp.2 (by intro h; rw [h] at hp; simp at hp) (o+1) (c+1) (Or.inr (Or.inr hp.1)) s0 I P]
    rw [List.replicate_succ, List.cons_append, closeLoop_succ]
    simp [List.append_assoc]
theorem scan_list : ∀ (ts : List Tree), ProperL ts = true → ts ≠ [] → ∀ (o c : Nat),
    (o = 0 ∨ c = 0 ∨ 2 ≤ ts.length) →
    ∀ (s0 I : List Nat) (P : List (List Nat)),
      scanFrom (elemsL o c ts) s0.length ⟨s0, I, P⟩ =
        closeLoop c ⟨s0 ++ leavesL ts, List.replicate o s0.length ++ I, P ++ cladesL ts⟩
  | [], _, hne, _, _, _, _, _, _ => absurd rfl hne
  | [t], hp, _, o, c, h, s0, I, P => by
    simp only [ProperL, Bool.and_true] at hp
    simp only [elemsL, leavesL, cladesL, List.append_nil]
    exact scan_tree t hp o c (h.imp_right (Or.imp_right fun h => absurd h (by simp))) s0 I P
  | t :: t' :: ts, hp, _, o, c, _, s0, I, P => by
    simp only [ProperL, Bool.and_eq_true] at hp
    simp only [elemsL, leavesL, cladesL]
    rw [scanFrom_append, scan_tree t hp.1 o 0 (Or.inr (Or.inl rfl)) s0 I P, elemsWith_length, ← List.length_append]
    simp only [closeLoop, Option.bind_some]
    rw [scan_list (t' :: ts) (by simp [ProperL, hp.2]) (by simp) 0 c (Or.inl rfl)]
    simp [leavesL, cladesL, List.append_assoc]
end

/-- **C15, scanner correctness**; in particular the loop does not raise -/
theorem C15_bipart_correct (cs : List Tree) (hp : Proper (.node cs) = true) :
    scan (elems (.node cs)) = some (clades (.node cs)) := by
  have h := scan_tree (.node cs) hp 0 0 (Or.inl rfl) [] [] []
  simp only [List.length_nil, List.replicate_zero, List.nil_append, closeLoop] at h
  simp only [scan, elems, h]
  simp [clades]

theorem C15_scan_congr (cs cs' : List Tree) (hp : Proper (.node cs) = true) (hp' : Proper (.node cs') = true)
    (h : clades (.node cs) = clades (.node cs')) :
    scan (elems (.node cs)) = scan (elems (.node cs')) := by
  rw [C15_bipart_correct cs hp, C15_bipart_correct cs' hp', h]

/-- the count `e` of `grf` -/
def sharedCount (pa : List (List Nat)) (la : List Nat) (pb : List (List Nat)) : Nat :=
  (pa.filter fun u => pb.contains u || pb.contains (setDiff la u)).length

def rfNum (pa : List (List Nat)) (la : List Nat) (pb : List (List Nat)) : Int :=
  ((pa.length + pb.length : Nat) : Int) - 2 * (sharedCount pa la pb : Nat)

def compat (la lb u ep : List Nat) : Bool :=
  subsetB u ep || subsetB (setDiff la u) ep ||
    (subsetB u (setDiff lb ep) || subsetB (setDiff la u) (setDiff lb ep))

/-- the count `e_mod` of `grf` -/
def modCount (pa : List (List Nat)) (la : List Nat) (pb : List (List Nat)) (lb : List Nat) : Nat :=
  (pa.filter fun u => !pb.isEmpty && pb.all (compat la lb u)).length

theorem grfParts_eq (pa : List (List Nat)) (la : List Nat) (pb : List (List Nat)) (lb : List Nat) :
    grfParts pa la pb lb = if pa.length = 0 then none else
      some ((pa.length - modCount pa la pb lb, pa.length), (rfNum pa la pb, pa.length + pb.length)) := by
  unfold grfParts modCount compat rfNum sharedCount
  simp only [Int.natCast_add]

theorem grfParts_rf (pa : List (List Nat)) (la : List Nat) (pb : List (List Nat)) (lb : List Nat)
    (r : (Nat × Nat) × (Int × Nat)) (h : grfParts pa la pb lb = some r) :
    r.2 = (rfNum pa la pb, pa.length + pb.length) := by
  rw [grfParts_eq] at h
  split at h
  · cases h
  · cases h; rfl

/-- **rf of a split list with itself is 0** (formula level: every split of A is found in A) -/
theorem C15_rf_self (pa : List (List Nat)) (la : List Nat) (hne : pa ≠ []) :
    ∃ g, grfParts pa la pa la = some (g, ((0 : Int), pa.length + pa.length)) := by
  have he : sharedCount pa la pa = pa.length := by
    unfold sharedCount
    congr 1
    apply List.filter_eq_self.mpr
    intro u hu
    simp [hu]
  have hz : rfNum pa la pa = 0 := by rw [rfNum, he]; omega
  rw [grfParts_eq, if_neg (by simpa using hne), hz]
  exact ⟨_, rfl⟩

/-- **range, upper half**: both numerators are at most their denominators (distance ≤ 1),
and the grf numerator is a natural number (distance ≥ 0). -/
theorem C15_range_upper (pa : List (List Nat)) (la : List Nat) (pb : List (List Nat)) (lb : List Nat)
    (g : Nat × Nat) (r : Int × Nat) (h : grfParts pa la pb lb = some (g, r)) :
    g.1 ≤ g.2 ∧ r.1 ≤ r.2 := by
  rw [grfParts_eq] at h
  split at h
  · cases h
  · cases h
    exact ⟨Nat.sub_le _ _, by simp only [rfNum]; omega⟩

/-- a test vector (plain `decide` would evaluate in the elaborator first, which is slow) -/
example : scan (elems (.node [.node [.leaf 0, .leaf 1], .node [.leaf 2, .leaf 3]])) =
    some [[0, 1], [2, 3], [0, 1, 2, 3]] := by decide +kernel

end Verif.TreeDist
