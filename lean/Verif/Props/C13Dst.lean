import Verif.Model.Dst
/-!
# C13 — the `<dst>` block: what `read_qlc` rebuilds from the upper triangle is the matrix that was saved
-/
namespace Verif.Dst
variable {α : Type}

theorem cellOf_eq_getElem (z : α) (m : List (List α)) (i j : Nat) (hi : i < m.length) (hj : j < m[i].length) :
    cellOf z m i j = m[i][j] := by
  simp [cellOf, List.getD_eq_getElem?_getD, List.getElem?_eq_getElem hi, List.getElem?_eq_getElem hj]

theorem rebuild_length (z : α) (m : List (List α)) : (rebuild z m).length = m.length := by simp [rebuild]

theorem rebuild_cell (z : α) (m : List (List α)) (i j : Nat) (hi : i < m.length) (hj : j < m.length) :
    cellOf z (rebuild z m) i j = if i < j then cellOf z m i j else if j < i then cellOf z m j i else z := by
  rw [cellOf_eq_getElem z _ i j (by simpa [rebuild] using hi) (by simpa [rebuild] using hj)]
  simp [rebuild]

/-- whatever was read, the rebuilt matrix is symmetric … -/
theorem rebuild_symm (z : α) (m : List (List α)) (i j : Nat) (hi : i < m.length) (hj : j < m.length) :
    cellOf z (rebuild z m) i j = cellOf z (rebuild z m) j i := by
  rw [rebuild_cell z m i j hi hj, rebuild_cell z m j i hj hi]
  rcases Nat.lt_trichotomy i j with h | h | h
  · simp [h, Nat.lt_asymm h]
  · simp [h]
  · simp [h, Nat.lt_asymm h]

/-- … and has a zero diagonal -/
theorem rebuild_diag (z : α) (m : List (List α)) (i : Nat) (hi : i < m.length) : cellOf z (rebuild z m) i i = z := by
  rw [rebuild_cell z m i i hi hi]; simp

/-- **C13, `<dst>` block**: a square, symmetric matrix with a zero diagonal comes back cell by cell. -/
theorem C13_dst_rebuild (z : α) (m : List (List α)) (hsq : ∀ r ∈ m, r.length = m.length)
    (hsym : ∀ i j, i < m.length → j < m.length → cellOf z m i j = cellOf z m j i)
    (hdiag : ∀ i, i < m.length → cellOf z m i i = z) : rebuild z m = m := by
  apply List.ext_getElem (rebuild_length z m)
  intro i h1 hi
  have hrow : m[i].length = m.length := hsq _ (List.getElem_mem hi)
  apply List.ext_getElem (by simp [rebuild, hrow])
  intro j h2 h3
  have hj : j < m.length := hrow ▸ h3
  rw [← cellOf_eq_getElem z _ i j h1 h2, ← cellOf_eq_getElem z m i j hi h3, rebuild_cell z m i j hi hj]
  rcases Nat.lt_trichotomy i j with h | h | h
  · simp [h]
  · simp [h, hdiag j hj]
  · simp [h, Nat.lt_asymm h, hsym i j hi hj]

/-- through any cell codec that reads back what it wrote (the values as rounded in the file) -/
theorem C13_dst_codec {β : Type} (z : α) (enc : α → β) (dec : β → α) (hcodec : ∀ x, dec (enc x) = x) (m : List (List α))
    (hsq : ∀ r ∈ m, r.length = m.length)
    (hsym : ∀ i j, i < m.length → j < m.length → cellOf z m i j = cellOf z m j i)
    (hdiag : ∀ i, i < m.length → cellOf z m i i = z) :
    rebuild z ((m.map fun r => r.map enc).map fun r => r.map dec) = m := by
  have : ((m.map fun r => r.map enc).map fun r => r.map dec) = m := by
    simp [List.map_map, Function.comp_def, hcodec]
  rw [this]
  exact C13_dst_rebuild z m hsq hsym hdiag

/-- a matrix that is not symmetric does not come back: the lower triangle is the mirrored upper one -/
example : rebuild (0 : Nat) [[0, 1], [2, 0]] = [[0, 1], [1, 0]] := by decide
/-- a symmetric matrix comes back whole (a reader that mirrors to `[j][j]` instead of `[j][i]` fails on this one) -/
example : rebuild (0 : Nat) [[0, 5, 7], [5, 0, 9], [7, 9, 0]] = [[0, 5, 7], [5, 0, 9], [7, 9, 0]] := by decide

def Tok (v : List Nat) : Prop := v ≠ [] ∧ 32 ∉ v

theorem splitWsGo_tok (t : List Nat) (ht : 32 ∉ t) (rest cur : List Nat) :
    splitWsGo (t ++ rest) cur = splitWsGo rest (t.reverse ++ cur) := by
  induction t generalizing cur with
  | nil => simp
  | cons c cs ih =>
    have hc : (c == 32) = false := beq_false_of_ne (List.ne_of_not_mem_cons ht).symm
    simp only [List.cons_append, splitWsGo, hc, Bool.false_eq_true, if_false]
    rw [ih (List.not_mem_of_not_mem_cons ht)]
    simp

theorem splitWs_tok (v : List Nat) (h : Tok v) : splitWs v = [v] := by
  have hr : v.reverse.isEmpty = false := by simpa using h.1
  have := splitWsGo_tok v h.2 [] []
  simp only [List.append_nil] at this
  simp [splitWs, this, splitWsGo, hr]

theorem splitWs_tok_blank (v rest : List Nat) (h : Tok v) : splitWs (v ++ 32 :: rest) = v :: splitWs rest := by
  have hr : v.reverse.isEmpty = false := by simpa using h.1
  simp [splitWs, splitWsGo_tok v h.2, splitWsGo, hr]

theorem splitWs_joinSp : ∀ (vals : List (List Nat)), (∀ v ∈ vals, Tok v) → splitWs (joinSp vals) = vals
  | [], _ => rfl
  | [v], h => splitWs_tok v (h v List.mem_cons_self)
  | v :: w :: vs, h => by
    rw [joinSp, splitWs_tok_blank v _ (h v List.mem_cons_self),
      splitWs_joinSp (w :: vs) fun x hx => h x (List.mem_cons_of_mem _ hx)]

theorem splitWs_blank (s : List Nat) : splitWs (32 :: s) = splitWs s := by simp [splitWs, splitWsGo]

/-- **C13, one line of the `<dst>` block**: the values come back as written whatever the taxon name (it is cut or padded to
its field); the name read is the first ten characters of the padded name, stripped -/
theorem C13_dst_line (name : List Nat) (vals : List (List Nat)) (hv : ∀ v ∈ vals, Tok v) :
    (readLine (writeLine name vals)).2 = vals ∧
    (readLine (writeLine name vals)).1 = stripSp ((name ++ List.replicate (10 - name.length) 32).take 10) := by
  generalize hp : name ++ List.replicate (10 - name.length) 32 = padded
  have hlen : 10 ≤ padded.length := by rw [← hp]; simp; omega
  have hfld : 10 ≤ (padded.take 11).length ∧ (padded.take 11).length ≤ 11 := by rw [List.length_take]; omega
  simp only [readLine, writeLine, hp]
  constructor
  · -- `read_dst` cuts after eleven characters: behind a name field of ten, a blank is left over in front of the values
    rw [List.drop_append, List.drop_of_length_le hfld.2, List.nil_append]
    refine Eq.trans ?_ (splitWs_joinSp vals hv)
    obtain h | h : 11 - (padded.take 11).length = 0 ∨ 11 - (padded.take 11).length = 1 := by omega
    · rw [h]; exact splitWs_blank _
    · rw [h]; rfl
  · rw [List.take_append_of_le_length hfld.1, List.take_take]
    rfl

example : readLine (writeLine [65, 66] [[48, 46, 53], [49]]) = ([65, 66], [[48, 46, 53], [49]]) := by decide
/-- a name of twelve characters: the field keeps ten, the values are untouched -/
example : (readLine (writeLine [65,66,67,68,69,70,71,72,73,74,75,76] [[48], [49]])) = ([65,66,67,68,69,70,71,72,73,74], [[48], [49]]) := by decide

end Verif.Dst
