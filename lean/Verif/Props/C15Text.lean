import Verif.Model.NewickText
import Verif.Lemmas.ListFacts
/-!
# C15 — the Newick text level: what `getNewick` writes for a name is read back by the tokeniser

`label_roundtrip`: for a name that contains no line break, tab or carriage return and does NOT
START WITH AN APOSTROPHE, the text `escapeName name` followed by a structural character is read (with
`underscore_unmunge=False`, as lingpy reads trees) as exactly one label, `canonName name` – the name itself
when it had to be quoted, the name with blanks replaced by underscores otherwise – followed by that
character.
`C15_text_roundtrip` lifts this to whole trees: tokenising `render t` gives the token stream `outs t`.
(`outs t` is a list of `Out`, with texts as labels; the parser of `C15Newick.lean` reads `Newick.Tok` with numbered
leaves, and no Lean statement connects the two.)

The hypothesis about the leading apostrophe is forced by the proof and is a finding about the code: the
split expression tries `''` before `'`, so `'''Are''are'` (the correct Newick for the name `'Are'are`) is
read as an empty label followed by another label – see `leading_apostrophe_fails`, the recorded finding
`newick-name-leading-apostrophe`, and DESIGN §10.3.
-/
namespace Verif.NewickText

theorem flushP_nil (l : List (List Char)) : flushP [] l = l := rfl

theorem pieces_nil (cur : List Char) (ws : Bool) : pieces cur ws [] = flushP cur [] := by
  conv => lhs; rw [pieces.eq_def]

theorem pieces_qq (cur : List Char) (ws : Bool) (c : Char) (rest : List Char) (hc : c = '\'' ∨ c = '"') :
    pieces cur ws (c :: c :: rest) = flushP cur ([c, c] :: pieces [] false rest) := by
  conv => lhs; rw [pieces.eq_def]
  rcases hc with rfl | rfl <;> simp [isWs]

theorem pieces_q1 (cur : List Char) (ws : Bool) (c d : Char) (rest : List Char) (hc : c = '\'' ∨ c = '"') (hd : d ≠ c) :
    pieces cur ws (c :: d :: rest) = flushP cur ([c] :: pieces [] false (d :: rest)) := by
  conv => lhs; rw [pieces.eq_def]
  rcases hc with rfl | rfl <;> simp [isWs, hd]

theorem pieces_delim (cur : List Char) (ws : Bool) (c : Char) (rest : List Char)
    (h1 : isWs c = false) (h2 : c ≠ '\n') (h3 : c ≠ '\'') (h4 : c ≠ '"') (h5 : isDelim c = true) :
    pieces cur ws (c :: rest) = flushP cur ([c] :: pieces [] false rest) := by
  conv => lhs; rw [pieces.eq_def]
  simp [h1, h2, h3, h4, h5]

/-- the characters the split collects into runs -/
def RunChar (c : Char) : Prop := isWs c = true ∨ (c ≠ '\n' ∧ isDelim c = false)

theorem pieces_run (cur : List Char) (ws : Bool) (c : Char) (rest : List Char) (h : RunChar c) :
    pieces cur ws (c :: rest) =
      if isWs c = ws then pieces (cur ++ [c]) ws rest else flushP cur (pieces [c] (isWs c) rest) := by
  conv => lhs; rw [pieces.eq_def]
  cases h1 : isWs c with
  | true => cases ws <;> simp [h1]
  | false =>
    obtain ⟨h2, h5⟩ := h.resolve_left (by simp [h1])
    have h3 : c ≠ '\'' := by rintro rfl; simp [isDelim] at h5
    have h4 : c ≠ '"' := by rintro rfl; simp [isDelim] at h5
    cases ws <;> simp [h1, h2, h3, h4, h5]

theorem step_quoted (t p : List Char) :
    stepTok false ⟨some t, some '\'', false⟩ p =
      if p = ['\n'] then none
      else if p = ['\''] then some (⟨none, none, false⟩, [.label t])
      else some (⟨some (t ++ if p = ['\'', '\''] then ['\''] else p), some '\'', false⟩, []) := by
  simp [stepTok]

theorem run_quoted_plain (t p : List Char) (l : List (List Char)) (h1 : '\'' ∉ p) (h2 : '\n' ∉ p) :
    runToks false ⟨some t, some '\'', false⟩ (p :: l) = runToks false ⟨some (t ++ p), some '\'', false⟩ l := by
  have hp : p ≠ ['\n'] ∧ p ≠ ['\''] ∧ p ≠ ['\'', '\''] := by
    refine ⟨?_, ?_, ?_⟩ <;> (rintro rfl; simp at h1 h2)
  simp [runToks, step_quoted, hp]

theorem run_quoted_qq (t : List Char) (l : List (List Char)) :
    runToks false ⟨some t, some '\'', false⟩ (['\'', '\''] :: l) =
      runToks false ⟨some (t ++ ['\'']), some '\'', false⟩ l := by
  simp [runToks, step_quoted]

/-- text still held by the split when a piece is emitted reaches the open label first -/
theorem run_flush_quoted (t cur : List Char) (l : List (List Char)) (h1 : '\'' ∉ cur) (h2 : '\n' ∉ cur) :
    runToks false ⟨some t, some '\'', false⟩ (flushP cur l) =
      runToks false ⟨some (t ++ cur), some '\'', false⟩ l := by
  unfold flushP
  split
  · rename_i h
    rw [List.isEmpty_iff.mp h, List.append_nil]
  · exact run_quoted_plain t cur l h1 h2

theorem dq_cons_ne (c : Char) (ns : List Char) (hc : c ≠ '\'') : doubleQuotes (c :: ns) = c :: doubleQuotes ns := by
  simp [doubleQuotes, hc]

theorem dq_cons_q (ns : List Char) : doubleQuotes ('\'' :: ns) = '\'' :: '\'' :: doubleQuotes ns := by
  simp [doubleQuotes]

/-- what follows a quote `q` in the written text does not start with `q` again, so the split takes `q` alone -/
theorem pieces_q_body (cur : List Char) (ws : Bool) (q : Char) (ns tail : List Char) (hq : q = '\'' ∨ q = '"')
    (h : ns.head? ≠ some q) (hn : ns = [] → q ≠ '\'') :
    pieces cur ws (q :: (doubleQuotes ns ++ '\'' :: tail)) =
      flushP cur ([q] :: pieces [] false (doubleQuotes ns ++ '\'' :: tail)) := by
  cases ns with
  | nil => exact pieces_q1 cur ws q '\'' tail hq (hn rfl).symm
  | cons e ns' =>
    have he : e ≠ q := fun h' => h (by rw [h']; rfl)
    by_cases hq' : e = '\''
    · rw [hq', dq_cons_q]
      exact pieces_q1 cur ws q '\'' _ hq (hq' ▸ he)
    · rw [dq_cons_ne e ns' hq']
      exact pieces_q1 cur ws q e _ hq he

theorem mapcons_eq {α : Type} (x y : List α) (o : Option (List α)) (h : x = y) :
    o.map (fun l => x ++ l) = o.map (fun l => y ++ l) := by rw [h]

/-- **inside the quotes**: the body written by `doubleQuotes`, then the closing quote, is read as the name -/
theorem quoted_body : ∀ (name : List Char), '\n' ∉ name →
    ∀ (cur : List Char) (ws : Bool) (t : List Char) (d : Char) (rest : List Char),
    d ≠ '\'' → '\'' ∉ cur → '\n' ∉ cur →
    runToks false ⟨some t, some '\'', false⟩ (pieces cur ws (doubleQuotes name ++ '\'' :: d :: rest)) =
      (runToks false ⟨none, none, false⟩ (pieces [] false (d :: rest))).map (fun o => Out.label (t ++ cur ++ name) :: o)
  | [], _, cur, ws, t, d, rest, hd, hq, hn => by
    rw [doubleQuotes, List.nil_append, pieces_q1 cur ws '\'' d rest (Or.inl rfl) hd,
      run_flush_quoted t cur _ hq hn]
    simp [runToks, step_quoted]
  | c :: ns, hnl, cur, ws, t, d, rest, hd, hq, hn => by
    have hnl' : '\n' ∉ ns := fun h => hnl (List.mem_cons_of_mem _ h)
    have hcn : c ≠ '\n' := fun h => hnl (by rw [h]; exact List.mem_cons_self)
    -- a piece that the open label simply takes in, then the rest of the name
    -- (`ns'.length ≤ ns.length` is there for the termination proof only)
    have take : ∀ (p ns' : List Char), '\'' ∉ p → '\n' ∉ p → ns'.length ≤ ns.length → '\n' ∉ ns' →
        runToks false ⟨some t, some '\'', false⟩
            (flushP cur (p :: pieces [] false (doubleQuotes ns' ++ '\'' :: d :: rest))) =
          (runToks false ⟨none, none, false⟩ (pieces [] false (d :: rest))).map
            (fun o => Out.label (t ++ cur ++ (p ++ ns')) :: o) := by
      intro p ns' hp1 hp2 hl hnl''
      rw [run_flush_quoted t cur _ hq hn, run_quoted_plain _ p _ hp1 hp2,
        quoted_body ns' hnl'' [] false _ d rest hd (by simp) (by simp)]
      simp
    by_cases hcq : c = '\''
    · subst hcq
      rw [dq_cons_q, List.cons_append, List.cons_append, pieces_qq cur ws '\'' _ (Or.inl rfl),
        run_flush_quoted t cur _ hq hn, run_quoted_qq,
        quoted_body ns hnl' [] false _ d rest hd (by simp) (by simp)]
      simp
    · rw [dq_cons_ne c ns hcq, List.cons_append]
      have hc1 : '\'' ∉ [c] ∧ '\n' ∉ [c] := by simp [Ne.symm hcq, Ne.symm hcn]
      by_cases hrun : RunChar c
      · -- blanks and ordinary characters: collected by the split, handed over later
        rw [pieces_run cur ws c _ hrun]
        split
        · rw [quoted_body ns hnl' (cur ++ [c]) ws t d rest hd (by simp [hq, hc1.1]) (by simp [hn, hc1.2])]
          simp
        · rw [run_flush_quoted t cur _ hq hn, quoted_body ns hnl' [c] (isWs c) (t ++ cur) d rest hd hc1.1 hc1.2]
          simp
      · have hws' : isWs c = false := eq_false_of_ne_true fun h => hrun (Or.inl h)
        have hdel : isDelim c = true := eq_true_of_ne_false fun h => hrun (Or.inr ⟨hcn, h⟩)
        by_cases hdq : c = '"'
        · subst hdq
          by_cases hns : ns.head? = some '"'
          · -- two double quotes are one piece
            obtain ⟨ns', rfl⟩ := List.head?_eq_some_iff.mp hns
            rw [dq_cons_ne '"' ns' (by decide), List.cons_append, pieces_qq cur ws '"' _ (Or.inr rfl)]
            exact take ['"', '"'] ns' (by decide) (by decide) (Nat.le_succ _)
              (fun h => hnl' (List.mem_cons_of_mem _ h))
          · rw [pieces_q_body cur ws '"' ns (d :: rest) (Or.inr rfl) hns (fun _ => by decide)]
            exact take ['"'] ns (by decide) (by decide) (Nat.le_refl _) hnl'
        · rw [pieces_delim cur ws c _ hws' hcn hcq hdq hdel]
          exact take [c] ns hc1.1 hc1.2 (Nat.le_refl _) hnl'

termination_by name => name.length
decreasing_by all_goals (simp only [List.length_cons]; omega)

theorem step_neutral (u : Bool) (tok : List Char) (h : ∀ c, tok = [c] → isBreak c = false) :
    stepTok u ⟨none, none, false⟩ tok =
      if tok = ['\''] ∨ tok = ['"'] then some (⟨some [], tok.head?, false⟩, [])
      else if tok = ['\'', '\''] ∨ tok = ['"', '"'] then some (⟨none, none, false⟩, [.label []])
      else if (strip tok).isEmpty then some (⟨none, none, false⟩, []) else some (⟨some tok, none, false⟩, []) := by
  unfold stepTok
  match tok, h with
  | [], _ => simp
  | [c], h => simp [h c rfl]
  | c :: c2 :: cs, _ => simp

def Closer (d : Char) : Prop := d = ',' ∨ d = ')' ∨ d = ';' ∨ d = '(' ∨ d = ':'

/-- all that the proofs use of a structural character -/
structure Closer.Facts (d : Char) : Prop where
  notWs : isWs d = false
  notNl : d ≠ '\n'
  notApos : d ≠ '\''
  notDq : d ≠ '"'
  delim : isDelim d = true
  brk : isBreak d = true
  notLbr : d ≠ '['

theorem Closer.spec {d : Char} (hd : Closer d) : Closer.Facts d := by
  rcases hd with rfl | rfl | rfl | rfl | rfl <;> constructor <;> decide

theorem pieces_closer (cur : List Char) (ws : Bool) (d : Char) (rest : List Char) (hd : Closer d) :
    pieces cur ws (d :: rest) = flushP cur ([d] :: pieces [] false rest) :=
  pieces_delim cur ws d rest hd.spec.notWs hd.spec.notNl hd.spec.notApos hd.spec.notDq hd.spec.delim

theorem step_closer (txt : Option (List Char)) (d : Char) (hd : Closer d) :
    stepTok false ⟨txt, none, false⟩ [d] =
      some ((closeText false ⟨txt, none, false⟩).1, (closeText false ⟨txt, none, false⟩).2 ++ [.sym d]) := by
  simp [stepTok, hd.spec.brk, hd.spec.notNl, hd.spec.notLbr]

theorem closer_tokens (d : Char) (rest : List Char) (hd : Closer d) :
    runToks false initSt (pieces [] false (d :: rest)) =
      (runToks false initSt (pieces [] false rest)).map (fun o => Out.sym d :: o) := by
  rw [pieces_closer [] false d rest hd]
  simp [flushP, runToks, initSt, step_closer none d hd, closeText]

theorem escapeName_quoted (name : List Char) (h : ¬(name.head? = some '\'' ∧ name.getLast? = some '\''))
    (hsp : name.any isSpecial = true) : escapeName name = '\'' :: doubleQuotes name ++ ['\''] := by
  rw [escapeName, if_neg (by simpa using h), if_pos hsp]

theorem escapeName_plain (name : List Char) (hsp : name.any isSpecial = false) :
    escapeName name = blanksToUnderscores name := by
  have h : name.head? ≠ some '\'' := by
    intro h
    have := List.any_eq_false.mp hsp '\'' (List.mem_of_mem_head? h)
    simp [isSpecial, isDelim] at this
  rw [escapeName, if_neg (by simp [h]), if_neg (by simp [hsp])]

theorem label_quoted (name : List Char) (d : Char) (rest : List Char) (hsp : name.any isSpecial = true)
    (hhead : name.head? ≠ some '\'') (hnl : '\n' ∉ name) (hd : Closer d) :
    runToks false initSt (pieces [] false (escapeName name ++ d :: rest)) =
      (runToks false initSt (pieces [] false rest)).map (fun o => [Out.label name, Out.sym d] ++ o) := by
  have hopen : ∀ l, runToks false initSt (['\''] :: l) = runToks false ⟨some [], some '\'', false⟩ l := by
    intro l
    rw [runToks, initSt, step_neutral _ _ (fun c hc => by cases hc; rfl)]
    simp
  rw [escapeName_quoted name (fun h => hhead h.1) hsp, List.cons_append, List.cons_append, List.append_assoc,
    List.singleton_append]
  rw [pieces_q_body [] false '\'' name (d :: rest) (Or.inl rfl) hhead (fun h => by simp [h] at hsp),
    flushP_nil, hopen]
  rw [quoted_body name hnl [] false [] d rest hd.spec.notApos (by simp) (by simp), ← initSt, closer_tokens d rest hd]
  simp [Function.comp_def]

def OrdChar (c : Char) : Prop := isWs c = false ∧ c ≠ '\n' ∧ c ≠ '\r' ∧ isDelim c = false

theorem pieces_ord_run : ∀ (s cur : List Char) (tail : List Char), (∀ c ∈ s, OrdChar c) →
    pieces cur false (s ++ tail) = pieces (cur ++ s) false tail
  | [], cur, tail, _ => by simp
  | c :: cs, cur, tail, h => by
    obtain ⟨h1, h2, _, h4⟩ := h c (by simp)
    rw [List.cons_append, pieces_run cur false c _ (Or.inr ⟨h2, h4⟩), if_pos h1,
      pieces_ord_run cs (cur ++ [c]) tail (fun x hx => h x (by simp [hx]))]
    simp

theorem strip_ord (s : List Char) (h : ∀ c ∈ s, OrdChar c) : strip s = s := by
  have hsp : ∀ c ∈ s, (c == ' ' || c == '\t' || c == '\n' || c == '\r') = false := by
    intro c hc
    obtain ⟨h1, h2, h3, _⟩ := h c hc
    simp only [isWs, Bool.or_eq_false_iff, beq_eq_false_iff_ne] at h1
    simp [h1.1, h1.2, h2, h3]
  unfold strip
  simp only
  rw [dropWhile_eq_self _ s fun c hc => hsp c (List.mem_of_head? hc),
    dropWhile_eq_self _ s.reverse fun c hc => hsp c (List.mem_reverse.mp (List.mem_of_head? hc))]
  simp

theorem step_text_start (p : List Char) (hne : p ≠ []) (h : ∀ c ∈ p, OrdChar c) :
    stepTok false initSt p = some (⟨some p, none, false⟩, []) := by
  obtain ⟨c, cs, rfl⟩ := List.exists_cons_of_ne_nil hne
  obtain ⟨_, h2, _, h4⟩ := h c (by simp)
  have hq : c ≠ '\'' ∧ c ≠ '"' := by constructor <;> (rintro rfl; simp [isDelim] at h4)
  rw [initSt, step_neutral, if_neg (by simp [hq.1, hq.2]), if_neg (by simp [hq.1, hq.2]), strip_ord _ h]
  · rfl
  · intro c' hc'
    cases hc'
    simp only [isDelim, Bool.or_eq_false_iff, beq_eq_false_iff_ne] at h4
    simp [isBreak, h2, h4]

theorem plain_label (s : List Char) (d : Char) (rest : List Char) (hne : s ≠ []) (hord : ∀ c ∈ s, OrdChar c)
    (hd : Closer d) :
    runToks false initSt (pieces [] false (s ++ d :: rest)) =
      (runToks false initSt (pieces [] false rest)).map (fun o => [Out.label s, Out.sym d] ++ o) := by
  have hem : s.isEmpty = false := List.isEmpty_eq_false_iff.mpr hne
  rw [pieces_ord_run s [] (d :: rest) hord, List.nil_append, pieces_closer s false d rest hd]
  simp only [flushP, hem, Bool.false_eq_true, if_false, runToks, step_text_start s hne hord,
    step_closer (some s) d hd, closeText, munge, strip_ord s hord, List.nil_append, Option.map_map]
  simp [initSt, Function.comp_def]

/-- the names the round trip is proved for -/
def NameOk (name : List Char) : Prop :=
  name ≠ [] ∧ name.head? ≠ some '\'' ∧ ∀ c ∈ name, c ≠ '\n' ∧ c ≠ '\t' ∧ c ≠ '\r'

/-- **C15, a name written by `getNewick` is read back** -/
theorem label_roundtrip (name : List Char) (d : Char) (rest : List Char) (hok : NameOk name) (hd : Closer d) :
    runToks false initSt (pieces [] false (escapeName name ++ d :: rest)) =
      (runToks false initSt (pieces [] false rest)).map (fun o => [Out.label (canonName name), Out.sym d] ++ o) := by
  obtain ⟨hne, hhead, hch⟩ := hok
  unfold canonName
  by_cases hsp : name.any isSpecial = true
  · rw [if_pos hsp]
    exact label_quoted name d rest hsp hhead (fun h => (hch _ h).1 rfl) hd
  · have hsp' : name.any isSpecial = false := by simpa using hsp
    rw [if_neg hsp, escapeName_plain name hsp']
    refine plain_label _ d rest (by simpa [blanksToUnderscores] using hne) (List.forall_mem_map.mpr fun x hx => ?_) hd
    by_cases hb : x = ' '
    · subst hb
      simp only [beq_self_eq_true, if_true]
      refine ⟨?_, ?_, ?_, ?_⟩ <;> decide
    · obtain ⟨h1, h2, h3⟩ := hch x hx
      have hnsp : isSpecial x = false := by simpa using List.any_eq_false.mp hsp' x hx
      simp only [isSpecial, Bool.or_eq_false_iff] at hnsp
      rw [if_neg (by simpa using hb)]
      exact ⟨by simp [isWs, hb, h2], h1, h3, hnsp.1⟩

mutual
def TreeOk : TTree → Prop
  | .leaf n => NameOk n
  | .node cs => TreeOkL cs
def TreeOkL : List TTree → Prop
  | [] => True
  | t :: ts => TreeOk t ∧ TreeOkL ts
end

mutual
theorem render_tokens : ∀ (t : TTree), TreeOk t → ∀ (d : Char) (rest : List Char), Closer d →
    runToks false initSt (pieces [] false (render t ++ d :: rest)) =
      (runToks false initSt (pieces [] false rest)).map (fun o => outs t ++ Out.sym d :: o)
  | .leaf n, h, d, rest, hd => by
    simp only [render, outs]
    rw [label_roundtrip n d rest h hd]
    simp
  | .node cs, h, d, rest, hd => by
    simp only [render, outs, TreeOk, List.cons_append, List.append_assoc, List.nil_append] at h ⊢
    rw [closer_tokens '(' _ (Or.inr (Or.inr (Or.inr (Or.inl rfl)))), renderL_tokens cs h (d :: rest),
      closer_tokens d rest hd]
    simp [Function.comp_def]
theorem renderL_tokens : ∀ (ts : List TTree), TreeOkL ts → ∀ (rest : List Char),
    runToks false initSt (pieces [] false (renderL ts ++ ')' :: rest)) =
      (runToks false initSt (pieces [] false rest)).map (fun o => outsL ts ++ Out.sym ')' :: o)
  | [], _, rest => by
    simp only [renderL, outsL, List.nil_append]
    exact closer_tokens ')' rest (Or.inr (Or.inl rfl))
  | [t], h, rest => by
    simp only [renderL, outsL, TreeOkL] at h ⊢
    exact render_tokens t h.1 ')' rest (Or.inr (Or.inl rfl))
  | t :: t' :: ts, h, rest => by
    simp only [TreeOkL] at h
    simp only [renderL, outsL, List.append_assoc, List.cons_append]
    rw [render_tokens t h.1 ',' _ (Or.inl rfl), renderL_tokens (t' :: ts) (by simp only [TreeOkL]; exact h.2) rest]
    simp [Function.comp_def]
end

/-- **C15, text level**: the text written for a tree is tokenised to the token stream of the tree -/
theorem C15_text_roundtrip (t : TTree) (h : TreeOk t) :
    tokenise false (render t ++ [';']) = some (outs t ++ [Out.sym ';', Out.eot]) := by
  unfold tokenise
  rw [render_tokens t h ';' [] (Or.inr (Or.inr (Or.inl rfl))), pieces_nil]
  simp [flushP, runToks, closeText, initSt]

/-- **a name that starts with an apostrophe is NOT read back**: whatever the reader returns begins with an EMPTY
label; the real parser then fails with "Already have a name".  The rest of the run is left open (`o` may be `none`).
`hlast`: a name that also ENDS with an apostrophe is written as it stands (taken as quoted already) and is covered
by neither this theorem nor `label_roundtrip`. -/
theorem leading_apostrophe_fails (ns tail : List Char) (hlast : ('\'' :: ns).getLast? ≠ some '\'') :
    ∃ o : Option (List Out), runToks false initSt (pieces [] false (escapeName ('\'' :: ns) ++ tail)) = o.map (fun l => Out.label [] :: l) := by
  rw [escapeName_quoted _ (fun h => hlast h.2) (by simp [isSpecial, isDelim]), dq_cons_q, List.cons_append,
    List.cons_append, List.cons_append, List.cons_append, pieces_qq [] false '\'' _ (Or.inl rfl), flushP_nil,
    runToks, initSt, step_neutral _ _ (fun c hc => by cases hc)]
  exact ⟨_, rfl⟩

/-- the hypotheses are satisfiable: a quoted name, a name with a blank, an apostrophe inside a name -/
example : TreeOk (.node [.leaf "Old N".toList, .leaf "Xi'an".toList, .node [.leaf "a_b".toList, .leaf "c".toList]]) := by
  simp only [TreeOk, TreeOkL, NameOk]
  decide +kernel

end Verif.NewickText
