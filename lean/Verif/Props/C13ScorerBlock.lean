import Verif.Props.C13Line
import Verif.Props.C13Num
/-!
# C13 — the `<scorer>` block as a whole: one line per symbol with two-decimal values, read back
(composition of `C13_scorer_line` and `C13_fixed2_roundtrip`)
-/
namespace Verif.Line
open Verif.Num

abbrev SCell := Bool × Nat      -- sign, magnitude · 10²

def scText (c : SCell) : List Nat := renderFixed2 c.1 c.2
def scRead (v : List Nat) : SCell := (parseFixed2 v).getD (false, 0)

/-- `scorer2str`: one line per symbol -/
def writeScorer (chars : List (List Nat)) (M : List (List SCell)) : List (List Nat) :=
  (chars.zip M).map fun p => scorerLine p.1 (p.2.map scText)

/-- `read_scorer`: symbol and values of every line -/
def readScorer (lines : List (List Nat)) : List (List Nat × List SCell) :=
  lines.map fun l => ((readScorerLine l).1, (readScorerLine l).2.map scRead)

theorem scText_notab (c : SCell) : tab ∉ scText c := fun h => by
  have := renderFixed2_chars c.1 c.2 9 h; omega

theorem scRead_scText (c : SCell) : scRead (scText c) = c := by
  simp [scRead, scText, C13_fixed2_roundtrip]

theorem read_write_scorerLine (ch : List Nat) (row : List SCell) (hc : tab ∉ ch) :
    (readScorerLine (scorerLine ch (row.map scText))).2.map scRead = row ∧
      (readScorerLine (scorerLine ch (row.map scText))).1 = ch := by
  rw [C13_scorer_line ch (row.map scText) hc (List.forall_mem_map.mpr fun c _ => scText_notab c), List.map_map]
  simp [Function.comp_def, scRead_scText]

/-- **C13, the `<scorer>` block**: symbols (without a tab) and two-decimal values come back line by line. -/
theorem C13_scorer_block (chars : List (List Nat)) (M : List (List SCell)) (hc : ∀ ch ∈ chars, tab ∉ ch) :
    readScorer (writeScorer chars M) = chars.zip M := by
  simp only [readScorer, writeScorer, List.map_map]
  refine (List.map_congr_left fun p hp => ?_).trans (List.map_id _)
  obtain ⟨h1, h2⟩ := read_write_scorerLine p.1 p.2 (hc p.1 (List.of_mem_zip hp).1)
  simp only [Function.comp, h1, h2, id]

end Verif.Line
