import Mathlib.Tactic.FieldSimp
import Mathlib.Tactic.Ring
import Mathlib.Algebra.BigOperators.Ring.Finset
import Verif.Lemmas.RatCarrier
import Verif.Props.C01
import Verif.Props.C03
import Verif.Props.C03SelfTable
/-!
# C03 — a sequence aligned with itself has normalised distance 0

Exact arithmetic (`ℚ`), every scale and every prosodic factor `≥ 0`, gap penalties `≤ 0`, for
every scorer that is *diagonally dominant*:  `s(x,y) ≤ (s(x,x) + s(y,y)) / 2`  and  `0 ≤ s(x,x)`
(`DiagDom`, in `C03SelfTable`; checked for the shipped models by the harness on every run, see `c03.py`).

The table of the kernel is bounded cell by cell:  `T(i,j) ≤ U(i) + U(j)`  where `U(i)` is half the
self-score of the first `i` segments, and the diagonal reaches the bound: `T(i,i) ≥ 2·U(i)`.  So
the returned similarity is the self-score and `1 − 2·sim / (self + self) = 0`.
-/
namespace Verif.Align
open ScoreOps ScoreLaws Finset

structure SelfPair (inp : Input ℚ) : Prop where
  b : inp.b = inp.a
  pro : inp.proB = inp.proA
  gA : ∀ g ∈ inp.gopA, g ≤ 0
  gB : ∀ g ∈ inp.gopB, g ≤ 0
  scale : 0 ≤ inp.scale
  factor : 0 ≤ inp.factor
  dom : DiagDom inp.scorer

/-- weight of a matched pair on the diagonal: `1 + factor` for the sound-class aligner, `1` for the others -/
def wOf (cfg : Cfg) (inp : Input ℚ) : ℚ := if cfg.flavour = 0 then 1 + inp.factor else 1

def U (cfg : Cfg) (inp : Input ℚ) (i : Nat) : ℚ :=
  ∑ k ∈ range i, wOf cfg inp * inp.scorer (inp.a.getD k 0) (inp.a.getD k 0) / 2

def halfSelf (cfg : Cfg) (inp : Input ℚ) (k : Nat) : ℚ :=
  wOf cfg inp * inp.scorer (inp.a.getD k 0) (inp.a.getD k 0) / 2

theorem U_zero (cfg : Cfg) (inp : Input ℚ) : U cfg inp 0 = 0 := Finset.sum_range_zero _

theorem U_succ (cfg : Cfg) (inp : Input ℚ) (i : Nat) : U cfg inp (i + 1) = U cfg inp i + halfSelf cfg inp i :=
  Finset.sum_range_succ _ _

theorem one_le_wOf (cfg : Cfg) (inp : Input ℚ) (h : SelfPair inp) : 1 ≤ wOf cfg inp := by
  unfold wOf; split
  · linarith [h.factor]
  · exact le_rfl

theorem halfSelf_nonneg (cfg : Cfg) (inp : Input ℚ) (h : SelfPair inp) (k : Nat) : 0 ≤ halfSelf cfg inp k :=
  div_nonneg (mul_nonneg (le_trans zero_le_one (one_le_wOf cfg inp h)) (h.dom _ 0).2) zero_le_two

theorem U_mono (cfg : Cfg) (inp : Input ℚ) (h : SelfPair inp) (i : Nat) : U cfg inp i ≤ U cfg inp (i + 1) := by
  rw [U_succ]; exact le_add_of_nonneg_right (halfSelf_nonneg cfg inp h i)

theorem U_le_of_le (cfg : Cfg) (inp : Input ℚ) (h : SelfPair inp) {i j : Nat} (hij : i ≤ j) :
    U cfg inp i ≤ U cfg inp j := by
  induction hij with
  | refl => exact le_refl _
  | step _ ih => exact le_trans ih (U_mono cfg inp h _)

theorem U_nonneg (cfg : Cfg) (inp : Input ℚ) (h : SelfPair inp) (i : Nat) : 0 ≤ U cfg inp i :=
  (U_zero cfg inp).ge.trans (U_le_of_le cfg inp h (Nat.zero_le i))

theorem getD_nonpos (l : List ℚ) (h : ∀ g ∈ l, g ≤ 0) (k : Nat) : l.getD k 0 ≤ 0 := by
  rw [List.getD_eq_getElem?_getD]
  cases hk : l[k]? with
  | none => exact le_rfl
  | some g => exact h g (List.mem_of_getElem? hk)

theorem gA_le (inp : Input ℚ) (h : SelfPair inp) (j : Nat) : gA inp j ≤ 0 := by
  unfold gA; exact getD_nonpos inp.gopA h.gA (j - 1)

theorem gB_le (inp : Input ℚ) (h : SelfPair inp) (i : Nat) : gB inp i ≤ 0 := by
  unfold gB; exact getD_nonpos inp.gopB h.gB (i - 1)

theorem big_nonneg : (0 : ℚ) ≤ big := by norm_num [q_big]

/-- the shape of `candUp` and `candLeft`, `g` the gap penalty of their side -/
theorem gapCand_le {p₁ p₂ p₃ p₄ : Prop} [Decidable p₁] [Decidable p₂] [Decidable p₃] [Decidable p₄] {v g s : ℚ}
    (hg : g ≤ 0) (hs : 0 ≤ s) :
    (if p₁ then v else if p₂ then v - big else if p₃ then v + g else if p₄ then v + g * s else v + g) ≤ v :=
  have hg' := add_le_of_nonpos_right (a := v) hg
  have hgs := add_le_of_nonpos_right (a := v) (mul_nonpos_of_nonpos_of_nonneg hg hs)
  ite_le le_rfl (ite_le (sub_le_self _ big_nonneg) (ite_le hg' (ite_le hgs hg')))

theorem sc_succ (inp : Input ℚ) (h : SelfPair inp) (i j : Nat) :
    sc inp (i + 1) (j + 1) = inp.scorer (inp.a.getD j 0) (inp.a.getD i 0) := by
  simp only [sc, h.b, Nat.add_sub_cancel]

theorem pA_eq_pB (inp : Input ℚ) (h : SelfPair inp) (i : Nat) : pA inp i = pB inp i := by
  simp [pA, pB, h.pro]

theorem dom_weighted {s d w c : ℚ} (hs : s ≤ d) (hd : 0 ≤ d) (hc0 : 0 ≤ c) (hc : 1 + c ≤ w) :
    s * (1 + c) ≤ w * d := by
  by_cases hs0 : 0 ≤ s
  · calc s * (1 + c) ≤ d * (1 + c) := mul_le_mul_of_nonneg_right hs (by linarith)
      _ ≤ d * w := mul_le_mul_of_nonneg_left hc hd
      _ = w * d := mul_comm _ _
  · have h1 : s * (1 + c) ≤ 0 := mul_nonpos_of_nonpos_of_nonneg (by linarith) (by linarith)
    have h2 : 0 ≤ w * d := mul_nonneg (by linarith) hd
    linarith

theorem sc_weighted_le (cfg : Cfg) (inp : Input ℚ) (h : SelfPair inp) (i j : Nat) :
    sc inp (i + 1) (j + 1) ≤ halfSelf cfg inp i + halfSelf cfg inp j ∧
      (cfg.flavour = 0 →
        sc inp (i + 1) (j + 1) * (1 + inp.factor / 2) ≤ halfSelf cfg inp i + halfSelf cfg inp j ∧
        sc inp (i + 1) (j + 1) * (1 + inp.factor) ≤ halfSelf cfg inp i + halfSelf cfg inp j) := by
  have K : ∀ c, 0 ≤ c → 1 + c ≤ wOf cfg inp →
      sc inp (i + 1) (j + 1) * (1 + c) ≤ halfSelf cfg inp i + halfSelf cfg inp j := by
    intro c hc0 hc
    obtain ⟨hd, hdj⟩ := h.dom (inp.a.getD j 0) (inp.a.getD i 0)
    have hdi := (h.dom (inp.a.getD i 0) 0).2
    have := dom_weighted ((sc_succ inp h i j).trans_le hd) (by linarith) hc0 hc
    exact this.trans_eq (by unfold halfSelf; ring)
  have hw := one_le_wOf cfg inp h
  have hf := h.factor
  refine ⟨by simpa using K 0 le_rfl (by linarith), fun hfl => ?_⟩
  have hwf : wOf cfg inp = 1 + inp.factor := if_pos hfl
  exact ⟨K _ (by linarith) (by linarith), K _ hf hwf.ge⟩

theorem candDiag_le (cfg : Cfg) (inp : Input ℚ) (h : SelfPair inp) (i j : Nat) (v : ℚ) :
    candDiag cfg inp (i + 1) (j + 1) v ≤ v + halfSelf cfg inp i + halfSelf cfg inp j := by
  obtain ⟨k0, kf⟩ := sc_weighted_le cfg inp h i j
  rw [add_assoc]
  generalize halfSelf cfg inp i + halfSelf cfg inp j = B at k0 kf ⊢
  unfold candDiag
  by_cases hfl : cfg.flavour = 0
  · obtain ⟨k2, k1⟩ := kf hfl
    simp only [hfl, ne_eq, not_true_eq_false, if_false, q_add, q_mul, q_sub, q_half]
    refine ite_le ?_ (ite_le ?_ (ite_le ?_ ?_))
    · linarith only [k1]
    · linarith only [k0, big_nonneg]
    · linarith only [k2]
    · linarith only [k0]
  · simp only [hfl, ne_eq, not_false_eq_true, if_true, q_add]
    linarith only [k0]

theorem candDiag_diag (cfg : Cfg) (inp : Input ℚ) (h : SelfPair inp) (i : Nat) (v : ℚ) :
    candDiag cfg inp (i + 1) (i + 1) v = v + 2 * halfSelf cfg inp i := by
  unfold candDiag halfSelf wOf
  simp only [sc_succ inp h, pA_eq_pB inp h, if_true]
  by_cases hfl : cfg.flavour = 0
  · simp only [hfl, ne_eq, not_true_eq_false, if_false, if_true, q_add, q_mul]; ring
  · simp only [hfl, ne_eq, not_false_eq_true, if_true, if_false, q_add]; ring

/-- The last alternative is the match candidate (in dialign mode a whole diagonal run): it exceeds an earlier cell by no
more than `U` grows between the two. -/
theorem table_le_of_step (U : Nat → ℚ) (hU : ∀ i, U i ≤ U (i + 1)) (hU0 : ∀ i j, 0 ≤ U i + U j)
    (V : Nat → Nat → ℚ) (M : Nat) (hrow : ∀ j, j ≤ M → V 0 j ≤ 0) (hcol : ∀ i, V (i + 1) 0 ≤ 0)
    (h : ∀ i j, j < M → V (i + 1) (j + 1) ≤ 0 ∨ V (i + 1) (j + 1) ≤ V i (j + 1) ∨ V (i + 1) (j + 1) ≤ V (i + 1) j ∨
      ∃ i' j', i' ≤ i ∧ j' ≤ j ∧ V (i + 1) (j + 1) ≤ V i' j' + (U (i + 1) - U i') + (U (j + 1) - U j')) :
    ∀ i j, j ≤ M → V i j ≤ U i + U j := by
  intro i j
  induction hn : i + j using Nat.strongRecOn generalizing i j with
  | _ n ih =>
    intro hj
    match i, j with
    | 0, j => exact le_trans (hrow j hj) (hU0 _ _)
    | i+1, 0 => exact le_trans (hcol i) (hU0 _ _)
    | i+1, j+1 =>
      rcases h i j hj with h | h | h | ⟨i', j', hi', hj', h⟩
      · exact le_trans h (hU0 _ _)
      · exact h.trans ((ih _ (by omega) i (j + 1) rfl hj).trans (add_le_add (hU i) le_rfl))
      · exact h.trans ((ih _ (by omega) (i + 1) j rfl (by omega)).trans (add_le_add le_rfl (hU j)))
      · linarith [ih _ (by omega) i' j' rfl (by omega)]

theorem self_dist_zero {s : ℚ} (hs : s ≠ 0) : 1 - (1 + 1) * s / (s + s) = 0 := by
  have : s + s ≠ 0 := fun hh => hs (by linarith)
  field_simp
  ring

variable (cfg : Cfg) (inp : Input ℚ)

theorem U_add_nonneg (h : SelfPair inp) (i j : Nat) : 0 ≤ U cfg inp i + U cfg inp j :=
  add_nonneg (U_nonneg cfg inp h i) (U_nonneg cfg inp h j)

theorem kernel_corner_val : (kernelOf cfg inp).corner.1 = 0 := by
  simp only [kernelOf]; split <;> rfl

/-- the shape of `row0` and `col0` of `kernelOf` -/
theorem borderCell_le {p₁ p₂ p₃ : Prop} [Decidable p₁] [Decidable p₂] [Decidable p₃] {v g s : ℚ} {m₀ m : Nat}
    (hv : v ≤ 0) (hg : g ≤ 0) (hs : 0 ≤ s) :
    (if p₁ then ((0 : ℚ), m₀) else if p₂ then (v + g, m) else if p₃ then (v + g * s, m) else (0, m)).1 ≤ 0 := by
  simp only [apply_ite Prod.fst]
  exact ite_le le_rfl (ite_le (add_nonpos hv hg)
    (ite_le (add_nonpos hv (mul_nonpos_of_nonpos_of_nonneg hg hs)) le_rfl))

theorem T_row0_le (h : SelfPair inp) (M j : Nat) (hj : j ≤ M) : (T (kernelOf cfg inp).toFill M 0 j).1 ≤ 0 := by
  induction j with
  | zero => rw [T_corner]; exact (kernel_corner_val cfg inp).le
  | succ j ih => rw [T_row0 _ M j (by omega)]; exact borderCell_le (ih (by omega)) (gA_le inp h _) h.scale

theorem T_col0_le (h : SelfPair inp) (M i : Nat) : (T (kernelOf cfg inp).toFill M i 0).1 ≤ 0 := by
  induction i with
  | zero => rw [T_corner]; exact (kernel_corner_val cfg inp).le
  | succ i ih => rw [T_col0]; exact borderCell_le ih (gB_le inp h _) h.scale

theorem kernel_choose4 (a m b : ℚ) :
    (kernelOf cfg inp).choose a m b = (a, 3) ∨ (kernelOf cfg inp).choose a m b = (m, 1) ∨
      (kernelOf cfg inp).choose a m b = (b, 2) ∨ (kernelOf cfg inp).choose a m b = (zero, 0) := by
  by_cases hl : cfg.mode = .local
  · exact kernel_chooseOkL cfg inp hl a m b
  · exact (kernel_chooseOkG cfg inp hl a m b).imp_right (.imp_right .inl)

theorem T_le_U_aff (h : SelfPair inp) (M : Nat) :
    ∀ i j, j ≤ M → (T (kernelOf cfg inp).toFill M i j).1 ≤ U cfg inp i + U cfg inp j := by
  refine table_le_of_step _ (U_mono cfg inp h) (U_add_nonneg cfg inp h) _ M ?_ ?_ fun i j hj => ?_
  · exact T_row0_le cfg inp h M
  · exact fun i => T_col0_le cfg inp h M (i + 1)
  rw [T_inner_aff _ M i j hj]
  rcases kernel_choose4 cfg inp _ _ _ with e | e | e | e <;> rw [e]
  · exact .inr (.inl (gapCand_le (gB_le inp h _) h.scale))
  · refine .inr (.inr (.inr ⟨i, j, le_rfl, le_rfl, (candDiag_le cfg inp h i j _).trans_eq ?_⟩))
    rw [U_succ, U_succ]
    ring
  · exact .inr (.inr (.inl (gapCand_le (gA_le inp h _) h.scale)))
  · exact .inl le_rfl

-- `hl` is stated without need (`T_le_U_aff`); so are `hl` / `hf` of the four theorems below that have the linter off
set_option linter.unusedVariables false in
theorem T_le_U (h : SelfPair inp) (hl : cfg.mode ≠ .local) (M : Nat) :
    ∀ i j, j ≤ M → (T (kernelOf cfg inp).toFill M i j).1 ≤ U cfg inp i + U cfg inp j :=
  T_le_U_aff cfg inp h M

theorem T_diag_ge_aff (h : SelfPair inp) (M : Nat) :
    ∀ i, i ≤ M → 2 * U cfg inp i ≤ (T (kernelOf cfg inp).toFill M i i).1 := by
  intro i
  induction i with
  | zero => intro _; rw [T_corner, U_zero, mul_zero]; exact (kernel_corner_val cfg inp).ge
  | succ i ih =>
    intro hi
    rw [T_inner_aff _ M i i (by omega)]
    refine le_trans ?_ (kernel_choose_max cfg inp _ _ _).2.1
    show _ ≤ candDiag cfg inp (i + 1) (i + 1) _
    rw [candDiag_diag cfg inp h i, U_succ]
    linarith [ih (by omega)]

set_option linter.unusedVariables false in
/-- **lower bound on the diagonal**: the identity alignment is always available -/
theorem T_diag_ge (h : SelfPair inp) (hl : cfg.mode ≠ .local) (M : Nat) :
    ∀ i, i ≤ M → 2 * U cfg inp i ≤ (T (kernelOf cfg inp).toFill M i i).1 :=
  T_diag_ge_aff cfg inp h M

theorem selfScore_eq : selfScore cfg inp inp.a = 2 * U cfg inp inp.a.length := by
  unfold selfScore U
  simp only [q_sum]
  rw [Finset.mul_sum]
  have : ∀ (l : List Nat) (g : Nat → ℚ), (l.map g).sum = ∑ k ∈ range l.length, g (l.getD k 0) := by
    intro l g
    induction l with
    | nil => simp
    | cons x xs ih =>
      rw [List.length_cons, Finset.sum_range_succ', List.map_cons, List.sum_cons, ih]
      simp [add_comm]
  rw [this]
  apply Finset.sum_congr rfl
  intro k _
  unfold wOf
  by_cases hfl : cfg.flavour = 0
  · simp only [hfl, if_true, q_mul, q_add, q_one]; ring
  · simp only [hfl, if_false]; ring

theorem runDist_self (h : SelfPair inp) (hne : selfScore cfg inp inp.a ≠ 0)
    (hs : (run cfg inp).sim? = some (selfScore cfg inp inp.a)) :
    runDist cfg inp = some (selfScore cfg inp inp.a, 0) := by
  simp only [runDist, hs, Option.map_some, distance, h.b]
  exact congrArg (fun d => some (_, d)) (self_dist_zero hne)

theorem self_distance_of_cell (h : SelfPair inp) (hl : cfg.mode ≠ .local) (ha : inp.a ≠ [])
    (hne : selfScore cfg inp inp.a ≠ 0)
    (hval : (T (fillOf cfg inp) inp.M inp.N inp.M).1 = selfScore cfg inp inp.a) :
    ∃ cols, run cfg inp = .glob cols (selfScore cfg inp inp.a) ∧
      runDist cfg inp = some (selfScore cfg inp inp.a, 0) := by
  have hb : inp.b ≠ [] := by rw [h.b]; exact ha
  obtain ⟨cols, sim, hrun, -⟩ := C01_rows cfg inp hl ha hb
  have hsim : sim = selfScore cfg inp inp.a := by
    rw [run_glob cfg inp hl ha hb] at hrun
    split at hrun <;> cases hrun
    exact hval
  subst hsim
  exact ⟨cols, hrun, runDist_self cfg inp h hne (by rw [hrun]; rfl)⟩

theorem selfScore_of_bounds {v : ℚ} (hup : v ≤ U cfg inp inp.M + U cfg inp inp.M)
    (hlo : 2 * U cfg inp inp.M ≤ v) : v = selfScore cfg inp inp.a := by
  rw [selfScore_eq cfg inp, show inp.a.length = inp.M from rfl]
  linarith

/-- **C03, self-distance (global and overlap mode, exact arithmetic)** -/
theorem C03_self_distance (h : SelfPair inp) (hm : cfg.mode = .global ∨ cfg.mode = .overlap) (ha : inp.a ≠ [])
    (hne : selfScore cfg inp inp.a ≠ 0) :
    ∃ cols, run cfg inp = .glob cols (selfScore cfg inp inp.a) ∧
      runDist cfg inp = some (selfScore cfg inp inp.a, 0) := by
  have hl : cfg.mode ≠ .local := by rcases hm with h | h <;> simp [h]
  have hd : cfg.mode ≠ .dialign := by rcases hm with h | h <;> simp [h]
  have hNM : inp.N = inp.M := by simp [Input.N, Input.M, h.b]
  refine self_distance_of_cell cfg inp h hl ha hne ?_
  rw [fillOf_aff cfg inp hd, hNM]
  exact selfScore_of_bounds cfg inp (T_le_U_aff cfg inp h _ _ _ (le_refl _)) (T_diag_ge_aff cfg inp h _ _ (le_refl _))

theorem local_run_max (hm : cfg.mode = .local) (i0 j0 k l : Nat) (cols : List (Col Nat)) (sim : ℚ)
    (hr : run cfg inp = .loc i0 j0 k l cols sim) :
    k ≤ inp.N ∧ l ≤ inp.M ∧ sim = (T (kernelOf cfg inp).toFill inp.M k l).1 ∧
      ∀ i j, i ≤ inp.N → j ≤ inp.M → (T (kernelOf cfg inp).toFill inp.M i j).1 ≤ sim :=
  run_local_max cfg inp hm i0 j0 k l cols sim hr

/-- **C03, self-distance (local mode, exact arithmetic)**, whenever the local kernel returns -/
theorem C03_self_distance_local (h : SelfPair inp) (hm : cfg.mode = .local)
    (i0 j0 k l : Nat) (cols : List (Col Nat)) (sim : ℚ) (hr : run cfg inp = .loc i0 j0 k l cols sim)
    (hne : selfScore cfg inp inp.a ≠ 0) :
    sim = selfScore cfg inp inp.a ∧ runDist cfg inp = some (selfScore cfg inp inp.a, 0) := by
  obtain ⟨hk, hl, hsim, hall⟩ := local_run_max cfg inp hm i0 j0 k l cols sim hr
  have hNM : inp.N = inp.M := by simp [Input.N, Input.M, h.b]
  have hval : sim = selfScore cfg inp inp.a := by
    refine selfScore_of_bounds cfg inp ?_
      (le_trans (T_diag_ge_aff cfg inp h inp.M inp.M (le_refl _)) (hall inp.M inp.M (by omega) (le_refl _)))
    have hup := T_le_U_aff cfg inp h inp.M k l hl
    have h1 := U_le_of_le cfg inp h (hNM ▸ hk)
    have h2 := U_le_of_le cfg inp h hl
    rw [← hsim] at hup
    linarith
  exact ⟨hval, runDist_self cfg inp h hne (by rw [hr, hval]; rfl)⟩

/-! In dialign mode the match candidate of cell `(i,j)` is the whole diagonal run back to the border: the value of the
border cell it starts from plus the pair scores along the diagonal. -/

theorem diaPair_le (h : SelfPair inp) (i j : Nat) :
    diaPair cfg inp (i + 1) (j + 1) ≤ halfSelf cfg inp i + halfSelf cfg inp j := by
  obtain ⟨k0, kf⟩ := sc_weighted_le cfg inp h i j
  generalize halfSelf cfg inp i + halfSelf cfg inp j = B at k0 kf ⊢
  unfold diaPair
  by_cases hfl : cfg.flavour = 0
  · obtain ⟨k2, k1⟩ := kf hfl
    simp only [hfl, ne_eq, not_true_eq_false, if_false, q_add, q_mul, q_sub, q_half, q_one]
    refine ite_le (ite_le ?_ (ite_le ?_ (ite_le ?_ k0))) (ite_le k1 (ite_le k2 k0))
    · linarith only [k1]
    · linarith only [k0, big_nonneg]
    · linarith only [k2]
  · simp only [hfl, ne_eq, not_false_eq_true, if_true]
    exact k0

theorem diaPair_diag (h : SelfPair inp) (i : Nat) :
    diaPair cfg inp (i + 1) (i + 1) = 2 * halfSelf cfg inp i := by
  unfold diaPair halfSelf wOf
  by_cases hfl : cfg.flavour = 0
  · simp only [sc_succ inp h, pA_eq_pB inp h, hfl, ne_eq, not_true_eq_false, if_false, if_true, q_add, q_mul, q_one]
    split_ifs <;> ring
  · simp only [sc_succ inp h, hfl, ne_eq, not_false_eq_true, if_true, if_false]; ring

/-- the run of `l+1` pairs after `(p, q)`; end and start are tied by equations so that no index is a difference -/
theorem diaRun_le_from (h : SelfPair inp) : ∀ (l p q i j : Nat) (acc : ℚ), i = p + l + 1 → j = q + l + 1 →
    diaRun cfg inp i j l acc ≤ acc + (U cfg inp i - U cfg inp p) + (U cfg inp j - U cfg inp q)
  | 0, p, q, _, _, acc, rfl, rfl => by
    have := diaPair_le cfg inp h p q
    simp only [diaRun, q_add, Nat.add_zero, U_succ]
    linarith
  | l+1, p, q, i, j, acc, hi, hj => by
    have ih := diaRun_le_from h l (p+1) (q+1) i j (acc + diaPair cfg inp (p+1) (q+1)) (by omega) (by omega)
    have := diaPair_le cfg inp h p q
    rw [U_succ cfg inp p, U_succ cfg inp q] at ih
    rw [diaRun, show i - (l+1) = p + 1 by omega, show j - (l+1) = q + 1 by omega]
    simp only [q_add]
    linarith

theorem diaRun_diag_from (h : SelfPair inp) : ∀ (l p i : Nat) (acc : ℚ), i = p + l + 1 →
    diaRun cfg inp i i l acc = acc + 2 * (U cfg inp i - U cfg inp p)
  | 0, p, _, acc, rfl => by
    simp only [diaRun, q_add, Nat.add_zero, U_succ, diaPair_diag cfg inp h p]
    ring
  | l+1, p, i, acc, hi => by
    rw [diaRun, show i - (l+1) = p + 1 by omega,
      diaRun_diag_from h l (p+1) i _ (by omega), diaPair_diag cfg inp h p, U_succ cfg inp p]
    simp only [q_add]
    ring

set_option linter.unusedVariables false in
theorem diaRun_le (h : SelfPair inp) (hf : cfg.flavour = 0) (i j : Nat) :
    ∀ (l : Nat) (acc : ℚ), l ≤ i → l ≤ j →
      diaRun cfg inp (i + 1) (j + 1) l acc ≤
        acc + (U cfg inp (i + 1) - U cfg inp (i - l)) + (U cfg inp (j + 1) - U cfg inp (j - l)) := by
  intro l acc hi hj
  obtain ⟨p, rfl⟩ : ∃ p, i = p + l := ⟨i - l, by omega⟩
  obtain ⟨q, rfl⟩ : ∃ q, j = q + l := ⟨j - l, by omega⟩
  rw [Nat.add_sub_cancel, Nat.add_sub_cancel]
  exact diaRun_le_from cfg inp h l p q _ _ acc rfl rfl

set_option linter.unusedVariables false in
theorem diaRun_diag (h : SelfPair inp) (hf : cfg.flavour = 0) (i : Nat) :
    ∀ (l : Nat) (acc : ℚ), l ≤ i →
      diaRun cfg inp (i + 1) (i + 1) l acc = acc + 2 * (U cfg inp (i + 1) - U cfg inp (i - l)) := by
  intro l acc hi
  obtain ⟨p, rfl⟩ : ∃ p, i = p + l := ⟨i - l, by omega⟩
  rw [Nat.add_sub_cancel]
  exact diaRun_diag_from cfg inp h l p _ acc rfl

theorem T_dia_border (M i j : Nat) (hj : j ≤ M) (h0 : i = 0 ∨ j = 0) :
    (T (dialignFill cfg inp) M i j).1 = 0 := by
  match i, j with
  | 0, 0 => rw [T_corner]; rfl
  | 0, j+1 => rw [T_row0 _ _ _ (by omega)]; rfl
  | i+1, 0 => rw [T_col0]; rfl
  | i+1, j+1 => omega

theorem dialignFill_inner (i j : Nat) (prev : List (List (Cell ℚ))) (up left ul : Cell ℚ) :
    (dialignFill cfg inp).inner i j prev up left ul =
      chooseGlobal cfg
        (if (cfg.secondary && inR inp (pB inp i) && !inR inp (pA inp j) && j != inp.M) = true then sub up.1 big else up.1)
        (diaRun cfg inp i j (min i j - 1) ((prev.getD (min i j - 1) []).getD (j - (min i j - 1) - 1) ((zero : ℚ), 0)).1)
        (if (cfg.secondary && inR inp (pA inp j) && !inR inp (pB inp i) && i != inp.N) = true then sub left.1 big else left.1) := rfl

/-- The cell the diagonal run of `(p+l+1, q+l+1)` starts from; in these coordinates the `min` and the differences of
the Python index arithmetic are gone. -/
theorem dia_start (M p q l : Nat) (h0 : p = 0 ∨ q = 0) :
    (((rowsRev (dialignFill cfg inp) M (p + l)).getD (min (p + l + 1) (q + l + 1) - 1) []).getD
        (q + l + 1 - (min (p + l + 1) (q + l + 1) - 1) - 1) ((zero : ℚ), 0)).1 =
      (T (dialignFill cfg inp) M p q).1 := by
  have hrow := rowsRev_getD (dialignFill cfg inp) M (p + l) p (by omega)
  rw [Nat.add_sub_cancel_left] at hrow
  rw [show min (p + l + 1) (q + l + 1) - 1 = l by omega, show q + l + 1 - l - 1 = q by omega, hrow]
  rfl  -- over ℚ the cell `(zero, 0)` the fill reads out of range is the `(default, 0)` of `T`

theorem T_dia_inner (M p q l : Nat) (h0 : p = 0 ∨ q = 0) (hj : q + l + 1 ≤ M) :
    ∃ gapA gapB : ℚ, gapA ≤ (T (dialignFill cfg inp) M (p + l) (q + l + 1)).1 ∧
      gapB ≤ (T (dialignFill cfg inp) M (p + l + 1) (q + l)).1 ∧
      T (dialignFill cfg inp) M (p + l + 1) (q + l + 1) =
        chooseGlobal cfg gapA (diaRun cfg inp (p + l + 1) (q + l + 1) l (T (dialignFill cfg inp) M p q).1) gapB := by
  have e := (T_inner _ M (p + l) (q + l) (by omega)).trans (dialignFill_inner cfg inp _ _ _ _ _ _)
  rw [dia_start cfg inp M p q l h0, show min (p + l + 1) (q + l + 1) - 1 = l by omega] at e
  exact ⟨_, _, ite_le (sub_le_self _ big_nonneg) le_rfl, ite_le (sub_le_self _ big_nonneg) le_rfl, e⟩

theorem T_le_U_dia (h : SelfPair inp) (M : Nat) :
    ∀ i j, j ≤ M → (T (dialignFill cfg inp) M i j).1 ≤ U cfg inp i + U cfg inp j := by
  refine table_le_of_step _ (U_mono cfg inp h) (U_add_nonneg cfg inp h) _ M ?_ ?_ fun i j hj => ?_
  · exact fun j hj => (T_dia_border cfg inp M 0 j hj (.inl rfl)).le
  · exact fun i => (T_dia_border cfg inp M (i + 1) 0 (Nat.zero_le _) (.inr rfl)).le
  obtain ⟨p, q, l, rfl, rfl, h0⟩ : ∃ p q l, i = p + l ∧ j = q + l ∧ (p = 0 ∨ q = 0) :=
    ⟨i - min i j, j - min i j, min i j, by omega, by omega, by omega⟩
  obtain ⟨gapA, gapB, hA, hB, hT⟩ := T_dia_inner cfg inp M p q l h0 hj
  rw [hT]
  rcases chooseGlobal_ok cfg gapA (diaRun cfg inp (p + l + 1) (q + l + 1) l (T (dialignFill cfg inp) M p q).1) gapB
    with e | e | e <;> rw [e]
  · exact .inr (.inl hA)
  · exact .inr (.inr (.inr ⟨p, q, by omega, by omega, diaRun_le_from cfg inp h l p q _ _ _ rfl rfl⟩))
  · exact .inr (.inr (.inl hB))

theorem T_diag_ge_dia (h : SelfPair inp) (M : Nat) :
    ∀ i, i ≤ M → 2 * U cfg inp i ≤ (T (dialignFill cfg inp) M i i).1 := by
  intro i hi
  match i with
  | 0 => rw [T_dia_border cfg inp M 0 0 hi (.inl rfl), U_zero, mul_zero]
  | i + 1 =>
    obtain ⟨gapA, gapB, -, -, hT⟩ := T_dia_inner cfg inp M 0 0 i (.inl rfl) (by omega)
    simp only [Nat.zero_add] at hT
    rw [hT]
    refine le_trans ?_ (chooseGlobal_max cfg _ _ _).2.1
    rw [diaRun_diag_from cfg inp h i 0 (i + 1) _ (by omega), T_dia_border cfg inp M 0 0 (by omega) (.inl rfl),
      U_zero, sub_zero, zero_add]

set_option linter.unusedVariables false in
/-- **C03, self-distance (dialign mode of the sound-class aligner, exact arithmetic)** -/
theorem C03_self_distance_dialign (h : SelfPair inp) (hm : cfg.mode = .dialign) (hf : cfg.flavour = 0) (ha : inp.a ≠ [])
    (hne : selfScore cfg inp inp.a ≠ 0) :
    ∃ cols, run cfg inp = .glob cols (selfScore cfg inp inp.a) ∧
      runDist cfg inp = some (selfScore cfg inp inp.a, 0) := by
  have hNM : inp.N = inp.M := by simp [Input.N, Input.M, h.b]
  refine self_distance_of_cell cfg inp h (by simp [hm]) ha hne ?_
  rw [show fillOf cfg inp = dialignFill cfg inp by simp [fillOf, hm], hNM]
  exact selfScore_of_bounds cfg inp (T_le_U_dia cfg inp h _ _ _ (le_refl _)) (T_diag_ge_dia cfg inp h _ _ (le_refl _))

end Verif.Align
