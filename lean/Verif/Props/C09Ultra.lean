import Verif.Props.C09
/-!
# C09 — the UPGMA tree is ultrametric

A tree matrix is read by lingpy's convention: leaves are `0 … n-1`, row `i` creates node `n + i` with
the two children and branch lengths it lists.  `leafDepths` reads it that way: for a node, every leaf
below it with the length of the path down to it.  This file and Props/C09Recover.lean speak of `leafDepths`;
the driver and the harness run the other reader, `decode` (Model/TreeBuild.lean), of which
`C09_nj_path_sums` speaks, and no lemma relates the two.

Theorem `C09_upgma_ultrametric`: in a carrier where `x + (h - x) = h` (exact arithmetic – the
integers; floats satisfy it only up to rounding, which is why the implementation is *tested* with a
tolerance) every leaf below the root of the UPGMA tree lies at the same depth, the recorded height of
the root – for every matrix (ties, asymmetric, negative entries) and pick rule.  The invariant says
the same of every live cluster: `branch = height(new node) − height(child)` telescopes.
-/
namespace Verif.TreeBuild
open Verif.Align Verif.Cluster ScoreOps
variable {S : Type} [ScoreOps S]

def leafDepths (n : Nat) (rows : List (Row S)) : Nat → Nat → List (Nat × S)
  | 0, _ => []
  | f+1, k =>
    if k < n then [(k, zero)]
    else match rows[k - n]? with
      | none => []
      | some (a, b, bA, bB) =>
        ((leafDepths n rows f a).map fun p => (p.1, add p.2 bA)) ++
        ((leafDepths n rows f b).map fun p => (p.1, add p.2 bB))

theorem leafDepths_node (n : Nat) (rows : List (Row S)) (f k a b : Nat) (bA bB : S) (h1 : ¬ k < n)
    (h2 : rows[k - n]? = some (a, b, bA, bB)) :
    leafDepths n rows (f + 1) k =
      ((leafDepths n rows f a).map fun p => (p.1, add p.2 bA)) ++
      ((leafDepths n rows f b).map fun p => (p.1, add p.2 bB)) := by
  simp only [leafDepths, h1, if_false, h2]

/-- children are created before their parent -/
def RowsWf (n : Nat) (rows : List (Row S)) : Prop :=
  ∀ i a b x y, rows[i]? = some (a, b, x, y) → a < n + i ∧ b < n + i

theorem leafDepths_congr (n : Nat) (rows rows' : List (Row S)) (wf : RowsWf n rows) (m : Nat)
    (hpre : ∀ i < m, rows'[i]? = rows[i]?) :
    ∀ (f1 f2 k : Nat), k < f1 → k < f2 → k < n + m → leafDepths n rows' f1 k = leafDepths n rows f2 k := by
  intro f1
  induction f1 with
  | zero => intro f2 k h; omega
  | succ g1 ih =>
    intro f2 k h1 h2 hm
    cases f2 with
    | zero => omega
    | succ g2 =>
      simp only [leafDepths]
      by_cases hk : k < n
      · simp [hk]
      · simp only [hk, if_false, hpre (k - n) (by omega)]
        cases hr : rows[k - n]? with
        | none => rfl
        | some r =>
          obtain ⟨a, b, x, y⟩ := r
          obtain ⟨ha, hb⟩ := wf (k - n) a b x y hr
          simp only
          rw [ih g2 a (by omega) (by omega) (by omega), ih g2 b (by omega) (by omega) (by omega)]

theorem leafDepths_append (n : Nat) (rows r : List (Row S)) (wf : RowsWf n rows) (f k : Nat) (hf : k < f)
    (hk : k < n + rows.length) : leafDepths n (rows ++ r) f k = leafDepths n rows f k :=
  leafDepths_congr n rows _ wf rows.length (fun _ hi => List.getElem?_append_left hi) f f k hf hf hk

omit [ScoreOps S] in
theorem rowsWf_snoc {n : Nat} {rows : List (Row S)} (wf : RowsWf n rows) {a b : Nat} (x y : S)
    (ha : a < n + rows.length) (hb : b < n + rows.length) : RowsWf n (rows ++ [(a, b, x, y)]) := by
  intro i a' b' x' y' hi
  rcases getElem?_snoc hi with ⟨_, ho⟩ | ⟨rfl, hr⟩
  · exact wf i a' b' x' y' ho
  · simp only [Prod.mk.injEq] at hr
    obtain ⟨rfl, rfl, _, _⟩ := hr
    exact ⟨ha, hb⟩

theorem leafDepths_snoc {n : Nat} {rows : List (Row S)} (wf : RowsWf n rows) {a b : Nat} (x y : S)
    (ha : a < n + rows.length) (hb : b < n + rows.length) :
    leafDepths n (rows ++ [(a, b, x, y)]) (n + rows.length + 1) (n + rows.length) =
      ((leafDepths n rows (a + 1) a).map fun p => (p.1, add p.2 x)) ++
      ((leafDepths n rows (b + 1) b).map fun p => (p.1, add p.2 y)) := by
  have hpre : ∀ i < rows.length, (rows ++ [(a, b, x, y)])[i]? = rows[i]? := fun _ hi => List.getElem?_append_left hi
  rw [leafDepths_node n _ _ _ a b x y (by omega) (by simp),
    leafDepths_congr n rows _ wf _ hpre _ (a + 1) a ha (by omega) ha,
    leafDepths_congr n rows _ wf _ hpre _ (b + 1) b hb (by omega) hb]

theorem heightOf_append_ne (hs : List (Nat × S)) (k new : Nat) (h : S) (hne : k ≠ new) :
    heightOf (hs ++ [(new, h)]) k = heightOf hs k := by
  have : (new == k) = false := by simpa using hne.symm
  unfold heightOf
  rw [List.find?_append]
  cases hs.find? (fun p => p.1 == k) <;> simp [this]

theorem heightOf_append_new (hs : List (Nat × S)) (new : Nat) (h : S) (hlt : ∀ p ∈ hs, p.1 < new) :
    heightOf (hs ++ [(new, h)]) new = h := by
  have : hs.find? (fun p => p.1 == new) = none :=
    List.find?_eq_none.mpr fun p hp => by simpa using Nat.ne_of_lt (hlt p hp)
  simp [heightOf, List.find?_append, this]

theorem heightOf_zero (hs : List (Nat × S)) (h : ∀ p ∈ hs, p.2 = zero) (k : Nat) : heightOf hs k = zero := by
  unfold heightOf
  cases hf : hs.find? (fun p => p.1 == k) with
  | none => rfl
  | some p => exact h p (List.mem_of_find?_eq_some hf)

/-- what the UPGMA run keeps.  `maxKey`: the next key is the next row's node id, hence fresh -/
structure UInv (n : Nat) (st : UState S) : Prop where
  wf : RowsWf n st.rows
  keysLt : ∀ c ∈ st.clusters, c.1 < n + st.rows.length
  maxKey : (st.clusters.map (·.1)).foldl max 0 + 1 = n + st.rows.length
  hkeys : ∀ p ∈ st.heights, p.1 < n + st.rows.length
  ld : ∀ c ∈ st.clusters, (leafDepths n st.rows (c.1 + 1) c.1).map (·.1) = c.2 ∧
        ∀ p ∈ leafDepths n st.rows (c.1 + 1) c.1, p.2 = heightOf st.heights c.1

theorem upgmaStep_inv (hlaw : ∀ h x : S, add x (sub h x) = h) (lastMin : Bool) (M : Nat → Nat → S) (n : Nat)
    (st st' : UState S) (hinv : UInv n st) (h : upgmaStep lastMin M st = some st') : UInv n st' := by
  obtain ⟨p, q, hp, hq, m, rest, _hne, _hpick, _hval, hperm, rfl⟩ := upgmaStep_eq lastMin M st st' h
  have hrest : ∀ c ∈ rest, c ∈ st.clusters := fun c hc =>
    hperm.subset (List.mem_cons_of_mem _ (List.mem_cons_of_mem _ hc))
  have hA : st.clusters[p] ∈ st.clusters := List.getElem_mem hp
  have hB : st.clusters[q] ∈ st.clusters := List.getElem_mem hq
  have ha := hinv.keysLt _ hA
  have hb := hinv.keysLt _ hB
  rw [hinv.maxKey]
  generalize st.clusters[p] = A at hA ha
  generalize st.clusters[q] = B at hB hb
  generalize div m (two : S) = hgt
  refine ⟨rowsWf_snoc hinv.wf _ _ ha hb, ?keysLt, ?maxKey, ?hkeys, ?ld⟩
  case keysLt =>
    rw [List.forall_mem_append, List.forall_mem_singleton, List.length_append]
    exact ⟨fun c hc => by have := hinv.keysLt c (hrest c hc); omega, by simp⟩
  case maxKey =>
    simp only [List.map_append, List.map_cons, List.map_nil, List.foldl_append, List.foldl_cons, List.foldl_nil,
      List.length_append, List.length_cons, List.length_nil]
    have hle : (rest.map (·.1)).foldl max 0 ≤ n + st.rows.length := foldl_max_le_iff.mpr
      ⟨Nat.zero_le _, List.forall_mem_map.mpr fun c hc => Nat.le_of_lt (hinv.keysLt c (hrest c hc))⟩
    omega
  case hkeys =>
    rw [List.forall_mem_append, List.forall_mem_singleton, List.length_append]
    exact ⟨fun pp hpp => by have := hinv.hkeys pp hpp; omega, by simp⟩
  case ld =>
    rw [List.forall_mem_append, List.forall_mem_singleton]
    refine ⟨fun c hc => ?_, ?_⟩
    · have hck := hinv.keysLt c (hrest c hc)
      rw [leafDepths_append n st.rows _ hinv.wf _ c.1 (Nat.lt_succ_self _) hck,
        heightOf_append_ne st.heights c.1 _ hgt (by omega)]
      exact hinv.ld c (hrest c hc)
    · -- branch = height of the new node − height of the child, so every leaf ends at the new height
      obtain ⟨a1, a2⟩ := hinv.ld A hA
      obtain ⟨b1, b2⟩ := hinv.ld B hB
      rw [leafDepths_snoc hinv.wf _ _ ha hb, heightOf_append_new st.heights _ hgt hinv.hkeys]
      constructor
      · simp only [List.map_append, List.map_map, Function.comp_def]
        rw [← a1, ← b1]
      · intro pp hpp
        rcases List.mem_append.mp hpp with hpp | hpp <;> obtain ⟨x, hx, rfl⟩ := List.mem_map.mp hpp
        · rw [a2 x hx]; exact hlaw _ _
        · rw [b2 x hx]; exact hlaw _ _

theorem uinv_init (n : Nat) (hn : 1 ≤ n) :
    UInv (S := S) n ⟨init n, (List.range n).map fun i => (i, zero), []⟩ := by
  have hmem : ∀ c ∈ init n, c.1 < n ∧ c.2 = [c.1] :=
    List.forall_mem_map.mpr fun i hi => ⟨List.mem_range.mp hi, rfl⟩
  refine ⟨fun i a b x y hi => by simp at hi, fun c hc => (hmem c hc).1, ?_, ?_, ?_⟩
  · obtain ⟨m, rfl⟩ : ∃ m, n = m + 1 := ⟨n - 1, by omega⟩
    simp only [init, List.map_map, Function.comp_def, List.map_id', List.length_nil, Nat.add_zero,
      foldl_max_range]
  · simp only [List.forall_mem_map, List.mem_range, List.length_nil, Nat.add_zero]
    exact fun i hi => hi
  · intro c hc
    obtain ⟨hi, hc2⟩ := hmem c hc
    simp only [leafDepths, hi, if_true, List.map_cons, List.map_nil, List.mem_singleton, forall_eq, hc2, true_and]
    exact (heightOf_zero _ (List.forall_mem_map.mpr fun _ _ => rfl) _).symm

/-- **C09, ultrametricity (UPGMA)**: every leaf below the root has the same depth, and these leaves are the taxa. -/
theorem C09_upgma_ultrametric (hlaw : ∀ h x : S, add x (sub h x) = h) (lastMin : Bool) (M : Nat → Nat → S)
    (n : Nat) (hn : 1 ≤ n) :
    ∃ root members, (upgma lastMin M n).clusters = [(root, members)] ∧ members.Perm (List.range n) ∧
      (leafDepths n (upgma lastMin M n).rows (root + 1) root).map (·.1) = members ∧
      ∀ p ∈ leafDepths n (upgma lastMin M n).rows (root + 1) root,
        p.2 = heightOf (upgma lastMin M n).heights root := by
  obtain ⟨root, members, hc, hperm⟩ := upgma_root lastMin M n hn
  have hinv := upgma_inv lastMin M n (UInv n) (uinv_init n hn) (upgmaStep_inv hlaw lastMin M n)
  have hld := hinv.ld (root, members) (hc ▸ List.mem_singleton_self _)
  exact ⟨root, members, hc, hperm, hld.1, hld.2⟩

/-- the integers are such a carrier -/
example : ∀ h x : Int, ScoreOps.add x (ScoreOps.sub h x) = h := by
  intro h x
  show x + (h - x) = h
  omega

/-- … and the statement is not vacuous: three taxa, distances 2, 6, 6 -/
example : (upgma (S := Int) false (fun i j => if i = j then 0 else if i + j = 1 then 2 else 6) 3).rows =
    [(0, 1, 1, 1), (2, 3, 3, 2)] := by decide

end Verif.TreeBuild
