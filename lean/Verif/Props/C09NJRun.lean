import Verif.Props.C09NJAdd
/-!
# C09 — Neighbor-Joining on additive input: the whole run reproduces the input distances

`decode n rows` (Model/TreeBuild.lean) reads a tree matrix the way lingpy does – row `t` creates node
`n + t` – and lists, for every pair of leaves that meet in a node, the length of the path between them.

`C09_nj_path_sums`: if the input matrix is the metric of a weighted system of pairwise compatible
splits with positive weights (a tree metric with positive branch lengths), then for every pair of taxa
the path length in the tree `_neighbor` returns is the input distance.  Exact arithmetic (`ℚ`).

Invariant along the run (`InvW`): the current matrix is the metric of a split system on the live
clusters; every live cluster is a node of the decoded forest; the input distance of two leaves in
different clusters is `depth + depth + current distance of the clusters`; every recorded path length
is the input distance; every pair inside one cluster has been recorded.
-/
namespace Verif.TreeBuild
open Verif.Align Verif.Cluster ScoreOps ScoreLaws Verif.NJ

def Cl (st : NState ℚ) (x : Nat) : List Nat := st.clusters.getD x []

/-- `d0`: the input distances, `dec`: the tree matrix so far as decoded, `L`: the split system on the live clusters,
`idOf x` / `lvOf x`: the node id and the leaves with their depths of the live cluster at position `x` -/
structure InvW (d0 : Nat → Nat → ℚ) (st : NState ℚ) (dec : Dec ℚ) (L : List (Split × ℚ))
    (idOf : Nat → Nat) (lvOf : Nat → List (Nat × ℚ)) : Prop where
  kpos : 1 ≤ st.clusters.length
  sys : System st.clusters.length L
  rep : Rep st.clusters.length st.matrix (dist L)
  tr : ∀ x < st.clusters.length, st.tracer.find? (fun p => p.1 == Cl st x) = some (Cl st x, idOf x)
  nd : ∀ x < st.clusters.length, dec.nodes.find? (fun p => p.1 == idOf x) = some (idOf x, lvOf x)
  lv : ∀ x < st.clusters.length, (lvOf x).map (·.1) = Cl st x
  cross : ∀ x < st.clusters.length, ∀ y < st.clusters.length, x ≠ y → ∀ p ∈ lvOf x, ∀ q ∈ lvOf y,
    d0 p.1 q.1 = p.2 + q.2 + dist L x y
  recd : ∀ e ∈ dec.dists, e.2 = d0 e.1.1 e.1.2
  cov : ∀ x < st.clusters.length, ∀ i ∈ Cl st x, ∀ j ∈ Cl st x, i ≠ j →
    ∃ v, ((i, j), v) ∈ dec.dists ∨ ((j, i), v) ∈ dec.dists
  -- the id `njStep` gives the next node (largest tracer id + 1) is the decoder's, and is unused
  fresh : ∀ p ∈ dec.nodes, p.1 < dec.next
  nxt : (st.tracer.map (·.2)).foldl max 0 + 1 = dec.next
  -- old keys stay in the tracer: each lies inside one live cluster, so the key of a join of two is not among them
  keys : ∀ p ∈ st.tracer, p.1 ≠ [] ∧ ∃ x < st.clusters.length, ∀ m ∈ p.1, m ∈ Cl st x
  ne : ∀ x < st.clusters.length, Cl st x ≠ []
  disj : ∀ x < st.clusters.length, ∀ y < st.clusters.length, x ≠ y → ∀ m ∈ Cl st x, m ∉ Cl st y

theorem join_inv (d0 : Nat → Nat → ℚ) (st st' : NState ℚ) (dec : Dec ℚ) (L L' : List (Split × ℚ))
    (idOf : Nat → Nat) (lvOf : Nat → List (Nat × ℚ)) (hI : InvW d0 st dec L idOf lvOf)
    (ia ib : Nat) (hab : ia < ib) (hb : ib < st.clusters.length) (sA sB : ℚ)
    (hsys : System (st.clusters.length - 1) L')
    (hrep : Rep (st.clusters.length - 1) st'.matrix (dist L'))
    (hcl : st'.clusters = (List.range (st.clusters.length - 1)).map (fun x =>
        if up ib x = ia then Cl st ia ++ Cl st ib else Cl st (up ib x)))
    (htr : st'.tracer = st.tracer ++ [(Cl st ia ++ Cl st ib, (st.tracer.map (·.2)).foldl max 0 + 1)])
    (H1 : ∀ x < st.clusters.length - 1, ∀ y < st.clusters.length - 1, x ≠ y → up ib x ≠ ia → up ib y ≠ ia →
      dist L' x y = dist L (up ib x) (up ib y))
    (H2 : ∀ x < st.clusters.length - 1, ∀ y < st.clusters.length - 1, x ≠ y → up ib x = ia →
      sA + dist L' x y = dist L ia (up ib y) ∧ sB + dist L' x y = dist L ib (up ib y))
    (H3 : sA + sB = dist L ia ib) :
    InvW d0 st' (decStep dec (traceId st.tracer (Cl st ia), traceId st.tracer (Cl st ib), sA, sB)) L'
      (fun x => if up ib x = ia then dec.next else idOf (up ib x))
      (fun x => if up ib x = ia then
          (lvOf ia).map (fun p => (p.1, p.2 + sA)) ++ (lvOf ib).map (fun p => (p.1, p.2 + sB))
        else lvOf (up ib x)) := by
  have ha : ia < st.clusters.length := by omega
  have hk' : st'.clusters.length = st.clusters.length - 1 := by rw [hcl]; simp
  rw [← hk'] at hsys hrep H1 H2
  have hupl : ∀ x < st'.clusters.length, up ib x < st.clusters.length := fun x hx => up_lt _ ib x hb (hk' ▸ hx)
  have hC' : ∀ x < st'.clusters.length, Cl st' x =
      if up ib x = ia then Cl st ia ++ Cl st ib else Cl st (up ib x) := fun x hx => by
    rw [Cl, hcl, getD_map_range _ _ x _ (hk' ▸ hx)]
  have hmemC : ∀ x < st'.clusters.length, ∀ m, m ∈ Cl st' x ↔
      m ∈ Cl st (up ib x) ∨ (up ib x = ia ∧ m ∈ Cl st ib) := fun x hx m => by
    rw [hC' x hx]
    by_cases hxa : up ib x = ia <;> simp [hxa]
  have hdec : decStep dec (traceId st.tracer (Cl st ia), traceId st.tracer (Cl st ib), sA, sB) =
      { nodes := dec.nodes ++ [(dec.next, (lvOf ia).map (fun p => (p.1, p.2 + sA)) ++ (lvOf ib).map (fun p => (p.1, p.2 + sB)))],
        dists := dec.dists ++ ((lvOf ia).map (fun p => (p.1, p.2 + sA))).flatMap fun p =>
          ((lvOf ib).map (fun p => (p.1, p.2 + sB))).map fun q => ((p.1, q.1), p.2 + q.2),
        next := dec.next + 1 } := by
    simp only [decStep, traceId, nodeLeaves, hI.tr ia ha, hI.tr ib hb, hI.nd ia ha, hI.nd ib hb, Option.map_some,
      Option.getD_some, q_add]
  rw [hdec]
  -- the joined key is not in the old tracer: a key lies in one cluster, the joined one meets two
  have hnew : st.tracer.find? (fun p => p.1 == (Cl st ia ++ Cl st ib)) = none :=
    List.find?_eq_none.mpr fun p hp hpe => by
      obtain ⟨_, x, hx, hsub⟩ := hI.keys p hp
      rw [beq_iff_eq.mp hpe] at hsub
      obtain ⟨m1, hm1⟩ := List.exists_mem_of_ne_nil _ (hI.ne ia ha)
      obtain ⟨m2, hm2⟩ := List.exists_mem_of_ne_nil _ (hI.ne ib hb)
      have e1 : ia = x := Decidable.byContradiction fun hne =>
        hI.disj ia ha x hx hne m1 hm1 (hsub m1 (List.mem_append_left _ hm1))
      have e2 : ib = x := Decidable.byContradiction fun hne =>
        hI.disj ib hb x hx hne m2 hm2 (hsub m2 (List.mem_append_right _ hm2))
      omega
  constructor
  case kpos => omega
  case sys => exact hsys
  case rep => exact hrep
  case tr =>
    intro x hx
    rw [hC' x hx, htr, List.find?_append]
    by_cases hxa : up ib x = ia
    · simp [hxa, hnew, hI.nxt]
    · simp only [hxa, if_false]
      rw [hI.tr _ (hupl x hx)]
      rfl
  case nd =>
    intro x hx
    simp only
    rw [List.find?_append]
    by_cases hxa : up ib x = ia
    · have hfr : dec.nodes.find? (fun p => p.1 == dec.next) = none :=
        List.find?_eq_none.mpr fun p hp hpe => (hI.fresh p hp).ne (beq_iff_eq.mp hpe)
      simp [hxa, hfr]
    · simp only [hxa, if_false]
      rw [hI.nd _ (hupl x hx)]
      rfl
  case lv =>
    intro x hx
    rw [hC' x hx]
    by_cases hxa : up ib x = ia
    · simp only [hxa, if_true, List.map_append, List.map_map, Function.comp_def]
      rw [← hI.lv ia ha, ← hI.lv ib hb]
    · simp only [hxa, if_false]
      exact hI.lv _ (hupl x hx)
  case cross =>
    intro x hx y hy hxy
    have hne : up ib x ≠ up ib y := fun e => hxy (up_inj ib x y e)
    by_cases hxa : up ib x = ia
    · have hya : up ib y ≠ ia := fun e => hne (hxa.trans e.symm)
      obtain ⟨e1, e2⟩ := H2 x hx y hy hxy hxa
      simp only [hxa, hya, if_true, if_false, List.forall_mem_append, List.forall_mem_map]
      constructor <;> intro p hp q hq
      · rw [hI.cross ia ha _ (hupl y hy) (Ne.symm hya) p hp q hq, ← e1]
        ring
      · rw [hI.cross ib hb _ (hupl y hy) (Ne.symm (up_ne ib y)) p hp q hq, ← e2]
        ring
    · by_cases hya : up ib y = ia
      · obtain ⟨e1, e2⟩ := H2 y hy x hx (Ne.symm hxy) hya
        simp only [hxa, hya, if_true, if_false, List.forall_mem_append, List.forall_mem_map]
        rw [dist_comm L' x y]
        intro p hp
        constructor <;> intro q hq
        · rw [hI.cross _ (hupl x hx) ia ha hxa p hp q hq, dist_comm L _ ia, ← e1]
          ring
        · rw [hI.cross _ (hupl x hx) ib hb (up_ne ib x) p hp q hq, dist_comm L _ ib, ← e2]
          ring
      · simp only [hxa, hya, if_false]
        rw [H1 x hx y hy hxy hxa hya]
        exact hI.cross _ (hupl x hx) _ (hupl y hy) hne
  case recd =>
    simp only [List.forall_mem_append, List.forall_mem_flatMap, List.forall_mem_map]
    refine ⟨hI.recd, fun p hp q hq => ?_⟩
    rw [hI.cross ia ha ib hb (Nat.ne_of_lt hab) p hp q hq, ← H3]
    ring
  case cov =>
    -- a pair inside the joined cluster is an old pair or is recorded by this row
    intro x hx i hi j hj hij
    simp only
    have hold : ∀ (N : List ((Nat × Nat) × ℚ)), ∀ z < st.clusters.length, i ∈ Cl st z → j ∈ Cl st z →
        ∃ v, ((i, j), v) ∈ dec.dists ++ N ∨ ((j, i), v) ∈ dec.dists ++ N := fun N z hz hi hj =>
      (hI.cov z hz i hi j hj hij).imp fun v hv => hv.imp (List.mem_append_left _) (List.mem_append_left _)
    have hrow : ∀ u ∈ Cl st ia, ∀ w ∈ Cl st ib, ∃ v, ((u, w), v) ∈
        ((lvOf ia).map (fun p => (p.1, p.2 + sA))).flatMap fun p =>
          ((lvOf ib).map (fun p => (p.1, p.2 + sB))).map fun q => ((p.1, q.1), p.2 + q.2) := by
      rw [← hI.lv ia ha, ← hI.lv ib hb]
      simp only [List.forall_mem_map]
      exact fun p hp q hq => ⟨_, List.mem_flatMap.mpr
        ⟨_, List.mem_map_of_mem hp, List.mem_map.mpr ⟨_, List.mem_map_of_mem hq, rfl⟩⟩⟩
    rcases (hmemC x hx i).mp hi with hi | ⟨hxa, hi⟩ <;> rcases (hmemC x hx j).mp hj with hj | ⟨hxa', hj⟩
    · exact hold _ _ (hupl x hx) hi hj
    · exact (hrow i (hxa' ▸ hi) j hj).imp fun v hv => Or.inl (List.mem_append_right _ hv)
    · exact (hrow j (hxa ▸ hj) i hi).imp fun v hv => Or.inr (List.mem_append_right _ hv)
    · exact hold _ ib hb hi hj
  case fresh =>
    simp only [List.forall_mem_append, List.forall_mem_singleton]
    exact ⟨fun p hp => Nat.lt_succ_of_lt (hI.fresh p hp), Nat.lt_succ_self _⟩
  case nxt =>
    simp only
    rw [htr, List.map_append, List.foldl_append, ← hI.nxt]
    simp only [List.map_cons, List.map_nil, List.foldl_cons, List.foldl_nil]
    omega
  case keys =>
    -- an old key lay in one old cluster, which went into one new cluster
    have hold : ∀ x < st.clusters.length, ∃ x' < st'.clusters.length, ∀ m ∈ Cl st x, m ∈ Cl st' x' := by
      intro x hx
      by_cases hxb : x = ib
      · exact ⟨ia, by omega, fun m hm =>
          (hmemC ia (by omega) m).mpr (Or.inr ⟨up_lt_self ib ia hab, hxb ▸ hm⟩)⟩
      · obtain ⟨x', hx', hux⟩ := up_surj _ ib x hb hx hxb
        exact ⟨x', hk' ▸ hx', fun m hm => (hmemC x' (hk' ▸ hx') m).mpr (Or.inl (hux ▸ hm))⟩
    rw [htr, List.forall_mem_append, List.forall_mem_singleton]
    refine ⟨fun p hp => ?_, by simp [hI.ne ia ha], ia, by omega, fun m hm => ?_⟩
    · obtain ⟨h1, x, hx, hsub⟩ := hI.keys p hp
      obtain ⟨x', hx', h⟩ := hold x hx
      exact ⟨h1, x', hx', fun m hm => h m (hsub m hm)⟩
    · rw [hC' ia (by omega), if_pos (up_lt_self ib ia hab)]
      exact hm
  case ne =>
    intro x hx
    obtain ⟨m, hm⟩ := List.exists_mem_of_ne_nil _ (hI.ne _ (hupl x hx))
    exact List.ne_nil_of_mem ((hmemC x hx m).mpr (Or.inl hm))
  case disj =>
    intro x hx y hy hxy m hm hm'
    have hne : up ib x ≠ up ib y := fun e => hxy (up_inj ib x y e)
    rcases (hmemC x hx m).mp hm with h1 | ⟨hxa, h1⟩ <;> rcases (hmemC y hy m).mp hm' with h2 | ⟨hya, h2⟩
    · exact hI.disj _ (hupl x hx) _ (hupl y hy) hne m h1 h2
    · exact hI.disj _ (hupl x hx) ib hb (up_ne ib x) m h1 h2
    · exact hI.disj ib hb _ (hupl y hy) (Ne.symm (up_ne ib y)) m h1 h2
    · exact hne (hxa.trans hya.symm)

theorem step_inv (d0 : Nat → Nat → ℚ) (st st' : NState ℚ) (dec : Dec ℚ) (L : List (Split × ℚ))
    (idOf : Nat → Nat) (lvOf : Nat → List (Nat × ℚ)) (hI : InvW d0 st dec L idOf lvOf)
    (h : njStep st = some st') :
    ∃ r L' idOf' lvOf', st'.rows = st.rows ++ [r] ∧ InvW d0 st' (decStep dec r) L' idOf' lvOf' := by
  by_cases h1 : st.clusters.length ≤ 1
  · rw [njStep_none st h1] at h; cases h
  by_cases h2 : st.clusters.length = 2
  · -- the last join: the split system left is empty
    rw [njStep_two st h2] at h
    obtain rfl := Option.some.inj h
    have hsys : System (st.clusters.length - 1) [] := ⟨by simp, by simp⟩
    have hrep : Rep (st.clusters.length - 1) [[(zero : ℚ)]] (dist []) := by
      rw [h2]
      refine ⟨rfl, fun i hi => ?_, fun i hi j hj => ?_⟩
      · obtain rfl : i = 0 := by omega
        rfl
      · obtain rfl : i = 0 := by omega
        obtain rfl : j = 0 := by omega
        rfl
    have H3 : div (mget st.matrix 0 1) two + div (mget st.matrix 0 1) two = dist L 0 1 := by
      rw [← hI.rep.val 0 (by omega) 1 (by omega)]
      simp only [q_div, q_two]
      ring
    exact ⟨_, [], _, _, rfl, join_inv d0 st _ dec L [] idOf lvOf hI 0 1 (by omega) (by omega) _ _ hsys hrep
      (hcl := by simp [h2, up, List.range_succ, Cl]) (htr := rfl)
      (H1 := fun x hx y hy hxy => by omega) (H2 := fun x hx y hy hxy => by omega) (H3 := H3)⟩
  · have hk3 : 3 ≤ st.clusters.length := by omega
    obtain ⟨ia, ib, sA, sB, hab, hb, hch, hsys', hrep', hcl, htr, hrows, H3, Hex⟩ :=
      njStep_additive st st' L hk3 hI.sys hI.rep h
    have key := join_inv d0 st st' dec L (reduce L ia ib) idOf lvOf hI ia ib hab hb sA sB hsys' hrep' hcl htr
      (fun x hx y hy _ hxa hya => reduce_other _ L ia ib hch x y (up_lt _ ib x hb hx) (up_lt _ ib y hb hy) hxa hya)
      (by
        intro x hx y hy hxy hxa
        rw [reduce_dist_joined L ia ib x y hxa]
        have hne : up ib y ≠ ia := fun e => hxy (up_inj ib x y (hxa.trans e.symm))
        exact Hex (up ib y) (up_lt _ ib y hb hy) hne (up_ne ib y))
      H3
    exact ⟨_, _, _, _, hrows, key⟩

theorem run_inv (n : Nat) (d0 : Nat → Nat → ℚ) (fuel : Nat) (st : NState ℚ) (L : List (Split × ℚ))
    (idOf : Nat → Nat) (lvOf : Nat → List (Nat × ℚ)) (hI : InvW d0 st (decode n st.rows) L idOf lvOf) :
    ∃ L' idOf' lvOf', InvW d0 (njRun fuel st) (decode n (njRun fuel st).rows) L' idOf' lvOf' := by
  rw [njRun_eq_iter]
  refine iter_inv njStep (fun st => ∃ L' idOf' lvOf', InvW d0 st (decode n st.rows) L' idOf' lvOf')
    (fun st st' ⟨L', idOf', lvOf', hI⟩ hs => ?_) fuel st ⟨L, idOf, lvOf, hI⟩
  obtain ⟨r, L'', idOf'', lvOf'', hrows, hI'⟩ := step_inv d0 st st' _ L' idOf' lvOf' hI hs
  rw [hrows, decode, List.foldl_append]
  exact ⟨L'', idOf'', lvOf'', hI'⟩

theorem find_map_range {α : Type} (n : Nat) (f : Nat → α) (pred : α → Bool) (x : Nat) (hx : x < n)
    (hp : pred (f x) = true) (hlt : ∀ y < x, pred (f y) = false) :
    ((List.range n).map f).find? pred = some (f x) := by
  rw [List.find?_map, List.find?_range_eq_some.mpr
    ⟨hp, List.mem_range.mpr hx, fun y hy => by simp [hlt y hy]⟩]
  rfl

theorem init_inv (n : Nat) (hn : 1 ≤ n) (M : List (List ℚ)) (L : List (Split × ℚ)) (hS : System n L)
    (hR : Rep n M (dist L)) :
    InvW (dist L) ⟨(List.range n).map fun i => [i], M, (List.range n).map fun i => ([i], i), []⟩
      (decode n []) L (fun x => x) (fun x => [(x, 0)]) := by
  have hC : ∀ x < n, ((List.range n).map fun i => [i]).getD x [] = [x] := fun x hx =>
    getD_map_range _ _ x _ hx
  constructor
  -- first every field is written out for the initial state: `n` clusters, cluster `x` is `[x]`, the decoder state is `decInit n`
  all_goals simp +contextual only [Cl, hC, List.length_map, List.length_range, decode, List.foldl_nil, decInit]
  case kpos => exact hn
  case sys => exact hS
  case rep => exact hR
  case tr =>
    exact fun x hx => find_map_range n (fun i => ([i], i)) _ x hx (by simp) fun y hy => by
      simp only [beq_eq_false_iff_ne, ne_eq, List.cons.injEq, and_true]
      omega
  case nd =>
    exact fun x hx => find_map_range n (fun i => (i, [(i, (0 : ℚ))])) _ x hx (by simp) fun y hy => by
      simp only [beq_eq_false_iff_ne, ne_eq]
      omega
  case lv => exact fun _ _ => rfl
  case cross =>
    intro x _ y _ _
    simp only [List.forall_mem_singleton]
    ring
  case recd => exact fun e he => nomatch he
  case cov =>
    intro x _
    simp only [List.forall_mem_singleton]
    exact fun hxx => absurd rfl hxx
  case fresh => exact List.forall_mem_map.mpr fun i hi => List.mem_range.mp hi
  case nxt =>
    obtain ⟨m, rfl⟩ : ∃ m, n = m + 1 := ⟨n - 1, by omega⟩
    rw [List.map_map, Function.comp_def, List.map_id', foldl_max_range]
  case keys =>
    rw [List.forall_mem_map]
    intro i hi
    refine ⟨by simp, i, List.mem_range.mp hi, ?_⟩
    rw [hC i (List.mem_range.mp hi)]
    exact fun m hm => hm
  case ne => exact fun _ _ => by simp
  case disj =>
    intro x _ y _ hxy
    rw [List.forall_mem_singleton, List.mem_singleton]
    exact hxy

/-- **C09, Neighbor-Joining on a tree metric (exact arithmetic)** -/
theorem C09_nj_path_sums (n : Nat) (hn : 1 ≤ n) (M : List (List ℚ)) (L : List (Split × ℚ)) (hS : System n L)
    (hR : Rep n M (dist L)) :
    (∀ e ∈ (decode n (neighbor M n).rows).dists, e.2 = dist L e.1.1 e.1.2) ∧
    (∀ i < n, ∀ j < n, i ≠ j → ∃ v, (((i, j), v) ∈ (decode n (neighbor M n).rows).dists ∨
      ((j, i), v) ∈ (decode n (neighbor M n).rows).dists) ∧ v = dist L i j) := by
  obtain ⟨L', idOf', lvOf', hI⟩ := run_inv n (dist L) n _ L _ _ (init_inv n hn M L hS hR)
  have hstruct := C09_nj_structure M n hn
  change InvW (dist L) (neighbor M n) (decode n (neighbor M n).rows) L' idOf' lvOf' at hI
  refine ⟨hI.recd, ?_⟩
  intro i hi j hj hij
  obtain ⟨c, hc⟩ := List.length_eq_one_iff.mp hstruct.2.1
  have hmem : ∀ m < n, m ∈ Cl (neighbor M n) 0 := fun m hm => by
    simpa [Cl, hc] using hstruct.1.mem_iff.mpr (List.mem_range.mpr hm)
  obtain ⟨v, hv⟩ := hI.cov 0 (by rw [hstruct.2.1]; omega) i (hmem i hi) j (hmem j hj) hij
  refine ⟨v, hv, ?_⟩
  rcases hv with hv | hv
  · exact hI.recd _ hv
  · have := hI.recd _ hv
    simp only at this
    rw [this, dist_comm]

/-! the hypotheses of `C09_nj_path_sums` are satisfiable -/

/-- quartet ((0,1),(2,3)): pendant edges 1, 2, 3, 4 and the inner edge 5 -/
def njExL : List (Split × ℚ) :=
  [(fun m => m == 0, 1), (fun m => m == 1, 2), (fun m => m == 2, 3), (fun m => m == 3, 4), (fun m => m == 0 || m == 1, 5)]

def njExM : List (List ℚ) := [[0, 3, 9, 10], [3, 0, 10, 11], [9, 10, 0, 7], [10, 11, 7, 0]]

example : System 4 njExL ∧ Rep 4 njExM (dist njExL) :=
  ⟨⟨by decide +kernel, by unfold Compat; decide +kernel⟩,
    ⟨rfl, by decide +kernel, by decide +kernel⟩⟩

end Verif.TreeBuild
