import Verif.Model.SoundClass
/-!
# C14 — segmentation keeps every symbol and position

For **arbitrary** character classes and options: the tokens concatenate to the input with the
break characters removed (plus the null glyph iff the first non-break character is a
combiner), no token is empty, and the only rejected inputs are those without any non-break
character when geminate merging is on (the code's `out[0]` IndexError).
`prosodic_string`'s case analysis is total and yields one symbol per sonority value; `tokens2class`
yields one class per token, a value of the converter or the unknown marker.
A concrete `Cls` / `TokCls` (from the harness's table of character masks): `Driver/SoundClass.lean`, cases `tok`, `t2c`.
-/
namespace Verif.SC

def flatOut (out : List (List Nat)) : List Nat := out.reverse.flatten

/-- the flags only claim a previous token when there is one; tokens are non-empty -/
def TokInv (st : TokSt) : Prop :=
  ((st.merge = true ∨ st.start = false ∨ st.vowel = true ∨ st.tone = true) → st.out ≠ []) ∧
  ∀ t ∈ st.out, t ≠ []

def contrib (K : Cls) (st : TokSt) (c : Nat) : List Nat :=
  if K.isBreak c then []
  else if K.isCombiner c && st.out.isEmpty then [K.nullGlyph, c]
  else [c]

def Adds (out : List (List Nat)) (cs : List Nat) (r : Option TokSt) : Prop :=
  ∃ st', r = some st' ∧ st'.out ≠ [] ∧ (∀ t ∈ st'.out, t ≠ []) ∧ flatOut st'.out = flatOut out ++ cs

theorem adds_push {out : List (List Nat)} (hall : ∀ t ∈ out, t ≠ []) (c : Nat) (v t m s : Bool) :
    Adds out [c] (some ⟨[c] :: out, v, t, m, s⟩) :=
  ⟨_, rfl, by simp, by simpa using hall, by simp [flatOut]⟩

theorem adds_append {x : List Nat} {r : List (List Nat)} (hall : ∀ t ∈ x :: r, t ≠ []) (c : Nat) (v t m s : Bool) :
    Adds (x :: r) [c] ((appendLast (x :: r) c).map fun o => ⟨o, v, t, m, s⟩) :=
  ⟨_, rfl, by simp, by simpa using (List.forall_mem_cons.mp hall).2, by simp [flatOut]⟩

theorem tokStep_adds (K : Cls) (st : TokSt) (c : Nat) (h : TokInv st) (hb : K.isBreak c = false) :
    Adds st.out (contrib K st c) (tokStep K st c) := by
  obtain ⟨out, v, t, m, s⟩ := st
  obtain ⟨hflag, hall⟩ := h
  cases out with
  | cons x r =>
    -- a token exists, so `out[-1] += char` cannot raise and `c` is contributed alone
    have hc : contrib K ⟨x :: r, v, t, m, s⟩ c = [c] := by simp [contrib, hb]
    rw [hc]
    -- every leaf pushes `[c]` or appends `c` to the last token (both leaves under `semiCond` append: it stays folded)
    simp only [tokStep, hb, Bool.false_eq_true, if_false, apply_ite (Adds (x :: r) [c]), adds_push hall, adds_append hall,
      ite_self]
  | nil =>
    -- no token yet: by `TokInv` no flag is set
    simp only [ne_eq, not_true_eq_false, imp_false, not_or, Bool.not_eq_true, Bool.not_eq_false] at hflag
    obtain ⟨rfl, rfl, rfl, rfl⟩ := hflag
    cases hc : K.isCombiner c with
    | true =>
      simp only [tokStep, contrib, hb, hc, Bool.false_eq_true, if_false, if_true, List.isEmpty_nil, Bool.and_true]
      exact ⟨_, rfl, by simp, by simp, by simp [flatOut]⟩
    | false =>
      -- with no flag set every remaining branch pushes `[c]`
      simp only [tokStep, contrib, semiCond, hb, hc, Bool.false_eq_true, if_false, Bool.false_and, Bool.and_false,
        Bool.not_true, apply_ite (Adds [] [c]), adds_push (out := []) (by simp), ite_self]

theorem tokStep_spec (K : Cls) (st : TokSt) (c : Nat) (h : TokInv st) :
    ∃ st', tokStep K st c = some st' ∧ TokInv st' ∧
      flatOut st'.out = flatOut st.out ++ contrib K st c ∧
      (K.isBreak c = true → st'.out = st.out) ∧ (K.isBreak c = false → st'.out ≠ []) := by
  cases hb : K.isBreak c with
  | true =>
    refine ⟨{ st with start := true, vowel := false, tone := false, merge := false }, ?_, ⟨?_, h.2⟩, ?_, fun _ => rfl, ?_⟩
    · simp [tokStep, hb]
    · simp
    · simp [contrib, hb]
    · simp
  | false =>
    obtain ⟨st', h1, h2, h3, h4⟩ := tokStep_adds K st c h hb
    exact ⟨st', h1, ⟨fun _ => h2, h3⟩, h4, by simp, fun _ => h2⟩

/-- the null glyph is prefixed iff the first non-break character is a combiner -/
def nullPrefix (K : Cls) (s : List Nat) : List Nat :=
  match s.filter (fun c => !K.isBreak c) with
  | c :: _ => if K.isCombiner c then [K.nullGlyph] else []
  | [] => []

theorem nullPrefix_cons (K : Cls) (c : Nat) (cs : List Nat) :
    nullPrefix K (c :: cs) = if K.isBreak c then nullPrefix K cs else if K.isCombiner c then [K.nullGlyph] else [] := by
  cases hb : K.isBreak c <;> simp [nullPrefix, hb]

theorem tokFold_spec (K : Cls) (s : List Nat) : ∀ (st : TokSt), TokInv st →
    ∃ st', tokFold K s st = some st' ∧ TokInv st' ∧
      flatOut st'.out = flatOut st.out ++ (if st.out.isEmpty then nullPrefix K s else []) ++
        s.filter (fun c => !K.isBreak c) ∧
      (st.out ≠ [] ∨ s.filter (fun c => !K.isBreak c) ≠ [] → st'.out ≠ []) ∧
      (s.filter (fun c => !K.isBreak c) = [] → st'.out = st.out) := by
  induction s with
  | nil => intro st h; exact ⟨st, rfl, h, by simp [nullPrefix], by simp, by simp⟩
  | cons c cs ih =>
    intro st h
    obtain ⟨st1, h1, hinv1, hflat1, hbrk, hnb⟩ := tokStep_spec K st c h
    obtain ⟨st2, h2, hinv2, hflat2, hne2, heq2⟩ := ih st1 hinv1
    refine ⟨st2, by simp [tokFold, h1, h2], hinv2, ?_⟩
    rw [nullPrefix_cons, List.filter_cons]
    cases hb : K.isBreak c with
    | true =>
      rw [← hbrk hb]
      exact ⟨hflat2, hne2, heq2⟩
    | false =>
      refine ⟨?_, fun _ => hne2 (.inl (hnb hb)), by simp⟩
      -- a token exists after `c`: `c` is the first non-break character iff `st.out` is empty
      rw [hflat2, hflat1]
      have hne1 : st1.out.isEmpty = false := List.isEmpty_eq_false_iff.mpr (hnb hb)
      cases hc : K.isCombiner c <;> cases ho : st.out.isEmpty <;> simp [contrib, hb, hc, ho, hne1]

theorem mergeGem_spec (ts : List (List Nat)) : ∀ (accR : List (List Nat)) (prev : List Nat),
    accR ≠ [] → (∀ t ∈ accR, t ≠ []) → (∀ t ∈ ts, t ≠ []) →
    (mergeGem accR ts prev).flatten = accR.reverse.flatten ++ ts.flatten ∧
    (∀ t ∈ mergeGem accR ts prev, t ≠ []) ∧ mergeGem accR ts prev ≠ [] := by
  induction ts with
  | nil => intro accR prev hne hall _; simpa [mergeGem] using ⟨hall, hne⟩
  | cons t ts ih =>
    intro accR prev hne hall hts
    obtain ⟨ht, hts'⟩ := List.forall_mem_cons.mp hts
    obtain ⟨a, r, rfl⟩ := List.exists_cons_of_ne_nil hne
    simp only [mergeGem]
    split
    · obtain ⟨h1, h2⟩ := ih ((a ++ t) :: r) t (by simp)
        (List.forall_mem_cons.mpr ⟨by simp [ht], (List.forall_mem_cons.mp hall).2⟩) hts'
      exact ⟨by rw [h1]; simp, h2⟩
    · obtain ⟨h1, h2⟩ := ih (t :: a :: r) t (by simp) (List.forall_mem_cons.mpr ⟨ht, hall⟩) hts'
      exact ⟨by rw [h1]; simp, h2⟩

theorem tokFold_init (K : Cls) (s : List Nat) :
    ∃ st, tokFold K s TokSt.init = some st ∧ (∀ t ∈ st.out, t ≠ []) ∧
      flatOut st.out = nullPrefix K s ++ s.filter (fun c => !K.isBreak c) ∧
      (st.out = [] ↔ s.filter (fun c => !K.isBreak c) = []) := by
  obtain ⟨st, h1, hinv, hflat, hne, heq⟩ := tokFold_spec K s TokSt.init (by simp [TokInv, TokSt.init])
  exact ⟨st, h1, hinv.2, by simpa [TokSt.init, flatOut] using hflat,
    fun h => Classical.byContradiction fun hf => hne (.inr hf) h, heq⟩

/-- **C14, tokens concatenate to the input**, **no token is empty** -/
theorem C14_tokens_concat (K : Cls) (s : List Nat) (ts : List (List Nat))
    (h : ipa2tokens K s = some ts) :
    ts.flatten = nullPrefix K s ++ s.filter (fun c => !K.isBreak c) ∧ ∀ t ∈ ts, t ≠ [] := by
  obtain ⟨st, h1, hall, hflat, _⟩ := tokFold_init K s
  have hall' : ∀ t ∈ st.out.reverse, t ≠ [] := fun t ht => hall t (List.mem_reverse.mp ht)
  simp only [ipa2tokens, h1] at h
  split at h
  · cases hr : st.out.reverse with
    | nil => simp [hr, geminates] at h
    | cons t r =>
      simp only [hr, geminates, Option.some.injEq] at h
      rw [hr] at hall'
      obtain ⟨g1, g2, _⟩ := mergeGem_spec r [t] t (by simp) (by simpa using hall' t List.mem_cons_self)
        (fun x hx => hall' x (List.mem_cons_of_mem _ hx))
      subst h
      exact ⟨by rw [g1, ← hflat, flatOut, hr]; simp, g2⟩
  · obtain rfl := Option.some.inj h
    exact ⟨hflat, hall'⟩

/-- **totality**: the tokeniser returns whenever there is a non-break character (or geminate
merging is off) … -/
theorem C14_tokens_total (K : Cls) (s : List Nat)
    (h : s.filter (fun c => !K.isBreak c) ≠ [] ∨ K.mergeGeminates = false) :
    ∃ ts, ipa2tokens K s = some ts := by
  obtain ⟨st, h1, _, _, hnil⟩ := tokFold_init K s
  simp only [ipa2tokens, h1]
  split
  · next hg =>
    have hne : st.out.reverse ≠ [] := fun hr =>
      (h.resolve_right (by simp [hg])) (hnil.mp (by simpa using hr))
    obtain ⟨t, r, hr⟩ := List.exists_cons_of_ne_nil hne
    exact ⟨_, by rw [hr]; rfl⟩
  · exact ⟨_, rfl⟩

/-- … and every other input is rejected (`out[0]` raises IndexError) -/
theorem C14_tokens_rejects (K : Cls) (s : List Nat)
    (h : s.filter (fun c => !K.isBreak c) = []) (hg : K.mergeGeminates = true) :
    ipa2tokens K s = none := by
  obtain ⟨st, h1, _, _, hnil⟩ := tokFold_init K s
  simp [ipa2tokens, h1, hg, hnil.mpr h, geminates]

/-- the guards of the arithmetic branches of `prosodic_string` leave no case over for its `else: raise` -/
theorem sonority_cases (a b c : Nat) (h1 : ¬((b ≤ a ∧ c ≤ b) ∨ c = 8))
    (h2 : ¬(b < c ∨ (b < a ∧ b ≤ c) ∨ (a < b ∧ b ≤ c))) : a < b ∧ c < b := by omega

def Grows (ps : List Pro) (r : Option (Bool × List Pro)) : Prop :=
  ∃ f ps', r = some (f, ps') ∧ ps'.length = ps.length + 1

theorem grows_push (ps : List Pro) (f : Bool) (s : Pro) : Grows ps (some (f, s :: ps)) := ⟨f, _, rfl, rfl⟩

theorem proStep_spec (a b c : Nat) (first : Bool) (ps : List Pro) (h : ps = [] → a = 9) :
    Grows ps (proStep a b c first ps) := by
  unfold proStep
  -- all leaves but two put one symbol in front of `ps`: what is left are the look at `pstring[-1]` and the `raise`
  simp only [apply_ite (Grows ps), grows_push, ite_self, if_true_left, if_true_right]
  show ¬b = 7 → ¬b = 8 → ¬(b ≤ a ∧ c ≤ b ∨ c = 8) →
    if b < c ∨ b < a ∧ b ≤ c ∨ a < b ∧ b ≤ c then ¬a = 9 → b ≤ a → ¬c = 9 → Grows ps _
    else ¬(a < b ∧ c < b) → Grows ps none
  intro _ _ h1
  split
  next =>
    -- the look at `pstring[-1]`: the string is empty only at a word start, and there `a = 9`
    intro ha _ _
    cases ps with
    | nil => exact absurd (h rfl) ha
    | cons p r => cases p <;> exact ⟨_, _, rfl, rfl⟩
  next h2 =>
    exact fun h3 => absurd (sonority_cases a b c h1 h2) h3

theorem proLoop_spec (l : List Nat) : ∀ (a : Nat) (first : Bool) (ps : List Pro), (ps = [] → a = 9) →
    ∃ out, proLoop a l first ps = some out ∧ out.length = ps.length + l.length := by
  induction l with
  | nil => intro a first ps _; exact ⟨_, rfl, by simp⟩
  | cons b rest ih =>
    intro a first ps h
    cases rest with
    | nil =>
      obtain ⟨f, ps', h1, h2⟩ := proStep_spec a b 9 first ps h
      exact ⟨ps'.reverse, by simp [proLoop, h1], by simp [h2]⟩
    | cons c rest =>
      obtain ⟨f, ps', h1, h2⟩ := proStep_spec a b c first ps h
      obtain ⟨out, h3, h4⟩ := ih b f ps' (by intro hp; rw [hp] at h2; simp at h2)
      exact ⟨out, by simp [proLoop, h1, h3], by rw [h4, h2]; simp; omega⟩

theorem splitNine_length (xs : List Nat) : ∀ (cur : List Nat),
    (((splitNine cur xs).map List.length).sum + ((splitNine cur xs).length - 1)) = cur.length + xs.length ∧
    (splitNine cur xs) ≠ [] := by
  intro cur
  fun_induction splitNine cur xs with
  | case1 cur => simp
  | case2 cur xs ih =>
    have := List.length_pos_iff.mpr ih.2
    refine ⟨?_, by simp⟩
    simp at ih ⊢
    omega
  | case3 cur x xs hx ih => exact ⟨by simp at ih ⊢; omega, ih.2⟩

theorem intercalate_length {α : Type} (sep : α) : ∀ (ls : List (List α)),
    (List.intercalate [sep] ls).length = (ls.map List.length).sum + (ls.length - 1)
  | [] => rfl
  | [l] => by simp
  | l :: l2 :: rest => by
    have := intercalate_length sep (l2 :: rest)
    simp only [List.intercalate_cons_cons, List.length_append, List.map_cons, List.sum_cons, List.length_cons,
      List.length_nil, Nat.add_sub_cancel] at this ⊢
    rw [this]
    ac_rfl

/-- **C14, prosodic strings**, for every sonority profile: any natural numbers, word breaks `9` anywhere -/
theorem C14_prosodic_total (profile : List Nat) :
    ∃ ps, prosodic profile = some ps ∧ ps.length = profile.length := by
  have hseg : ∀ p, ∃ out, proLoop 9 p true [] = some out ∧ out.length = p.length := fun p => by
    simpa using proLoop_spec p 9 true [] (fun _ => rfl)
  -- `prosodic` ends in `if parts.all isSome then some (intercalate …) else none`
  refine ⟨_, if_pos ?_, ?_⟩
  · simp only [List.all_map, List.all_eq_true, Function.comp]
    intro p _
    obtain ⟨out, h, _⟩ := hseg p
    simp [h]
  · simp only [intercalate_length, List.map_map, List.length_map]
    refine Eq.trans ?_ ((splitNine_length profile []).1.trans (Nat.zero_add _))
    congr 2
    refine List.map_congr_left fun p _ => ?_
    obtain ⟨out, h, hl⟩ := hseg p
    simp [h, hl]

theorem C14_class_len (M : TokCls) (toks : List (List Nat)) : (tokens2class M toks).length = toks.length := by
  simp [tokens2class]

/-- so a class is never the gap class as soon as the converter's values avoid it (generated obligation `GapClassFree`) -/
theorem C14_class_range (M : TokCls) (tok : List Nat) :
    token2class M tok = M.unknown ∨ ∃ k, M.lookup k = some (token2class M tok) := by
  -- the seven leaves of the fallback chain: the unknown marker, or the value of the lookup named
  fun_cases token2class M tok
  case case1 c hc => exact .inr ⟨tok, hc⟩
  case case2 => exact .inl rfl
  case case3 h t c hc _ => exact .inr ⟨[h], hc⟩
  case case4 h t _ _ c hc _ => exact .inr ⟨t, hc⟩
  case case5 h _ h2 _ _ _ _ =>
    cases hc : M.lookup [h2] with
    | some c => exact .inr ⟨[h2], hc⟩
    | none => exact .inl rfl
  case case6 => exact .inl rfl
  case case7 => exact .inl rfl

end Verif.SC
