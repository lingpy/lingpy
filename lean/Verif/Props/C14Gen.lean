import Verif.Props.C14
import Verif.Generated.SoundClasses
/-!
# C14 — "classes never equal the gap class", closed over the shipped tables

`C14_class_range` says that the class of a token is a value of the converter or the unknown marker.
`Verif/Generated/SoundClasses.lean` is rewritten on every run from the converter files of the checked
repository and proves, by `decide` over the table, that no value of any shipped converter is the gap
class (`GapClassFree`) and that the `art` model emits digits only (`ArtDigits`).  Together: for every
model whose converter takes its values from one of the shipped tables (that is C20: the loaded converter
is the one of the data file; the correspondence also compares the value sets), no token is ever given
the gap class.
-/
namespace Verif.SC
open Verif.Generated

/-- `88` and `45` are the code points of `X` and `-` (as in `GapClassFree`); the marker for an unknown token is `0` in the
shipped models -/
theorem C14_never_gap (M : TokCls) (name : String) (cls : List Nat) (hm : (name, cls) ∈ classTable)
    (hrange : ∀ k c, M.lookup k = some c → c ∈ cls) (hunk : M.unknown ≠ 88 ∧ M.unknown ≠ 45) (tok : List Nat) :
    token2class M tok ≠ 88 ∧ token2class M tok ≠ 45 := by
  rcases C14_class_range M tok with h | ⟨k, hk⟩
  · rw [h]; exact hunk
  · exact GapClassFree (name, cls) hm _ (hrange k _ hk)

/-- the sonority classes are digits, so the integer conversion of `prosodic_string`'s input never fails on them -/
theorem C14_art_digits (M : TokCls) (cls : List Nat) (hm : ("art", cls) ∈ classTable)
    (hrange : ∀ k c, M.lookup k = some c → c ∈ cls) (k : List Nat) (c : Nat) (h : M.lookup k = some c) :
    49 ≤ c ∧ c ≤ 57 :=
  ArtDigits ("art", cls) hm rfl c (hrange k c h)

end Verif.SC
