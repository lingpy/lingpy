import Verif.Model.Num
/-!
# C13 — an integer cell: `int(str(n)) = n` for every integer (the assumption of `Model/Cell.lean`, proved for the model
of the two conversions and tied to Python's on generated integers of any size)
-/
namespace Verif.Num

def valueRev : List Nat → Nat
  | [] => 0
  | d :: ds => d + 10 * valueRev ds

theorem valueRev_digitsRev : ∀ n, valueRev (digitsRev n) = n := by
  intro n
  fun_induction digitsRev n with
  | case1 => rfl
  | case2 m ih => rw [valueRev, ih]; omega

theorem digitsRev_lt : ∀ n, ∀ d ∈ digitsRev n, d < 10 := by
  intro n
  fun_induction digitsRev n with
  | case1 => simp
  | case2 m ih => exact List.forall_mem_cons.mpr ⟨Nat.mod_lt _ (by decide), ih⟩

theorem digitsRev_ne_nil (n : Nat) (h : n ≠ 0) : digitsRev n ≠ [] := by
  cases n with
  | zero => exact absurd rfl h
  | succ m => rw [digitsRev]; simp

theorem fold_digits : ∀ (ds : List Nat), (∀ d ∈ ds, d < 10) → ∀ (a : Nat),
    (ds.map (· + 48)).foldl (fun acc c => acc.bind fun a => if isDigit c then some (a * 10 + (c - 48)) else none) (some a)
      = some (ds.foldl (fun a d => a * 10 + d) a) := by
  intro ds
  induction ds with
  | nil => intro _ a; rfl
  | cons d ds ih =>
    intro h a
    obtain ⟨hd, ht⟩ := List.forall_mem_cons.mp h
    have hdig : isDigit (d + 48) = true := by simp [isDigit]; omega
    simp only [List.map_cons, List.foldl_cons, Option.bind_some, hdig, if_true, Nat.add_sub_cancel]
    exact ih ht _

theorem foldl_reverse_value : ∀ (ds : List Nat), ds.reverse.foldl (fun a d => a * 10 + d) 0 = valueRev ds := by
  intro ds
  induction ds with
  | nil => rfl
  | cons d ds ih =>
    simp only [List.reverse_cons, List.foldl_append, List.foldl_cons, List.foldl_nil, ih, valueRev]
    omega

theorem parseNat_digits (ds : List Nat) (hne : ds ≠ []) (h : ∀ d ∈ ds, d < 10) :
    parseNat (ds.map (· + 48)) = some (ds.foldl (fun a d => a * 10 + d) 0) := by
  unfold parseNat
  rw [if_neg (by simpa using hne)]
  exact fold_digits ds h 0

/-- `str(n)`: digits, at least one, that spell `n` -/
theorem renderNat_spec (n : Nat) : ∃ ds, ds ≠ [] ∧ (∀ d ∈ ds, d < 10) ∧ renderNat n = ds.map (· + 48) ∧
    ds.foldl (fun a d => a * 10 + d) 0 = n := by
  unfold renderNat
  split
  next h => exact ⟨[0], by simp, by simp, rfl, by simp [h]⟩
  next h =>
    refine ⟨(digitsRev n).reverse, ?_, ?_, rfl, ?_⟩
    · simpa using digitsRev_ne_nil n h
    · exact fun d hd => digitsRev_lt n d (List.mem_reverse.mp hd)
    · rw [foldl_reverse_value, valueRev_digitsRev]

/-- **`int(str(n)) = n`**, natural numbers -/
theorem parse_render_nat (n : Nat) : parseNat (renderNat n) = some n := by
  obtain ⟨ds, hne, hlt, hr, hv⟩ := renderNat_spec n
  rw [hr, parseNat_digits ds hne hlt, hv]

theorem digit_chars (ds : List Nat) (h : ∀ d ∈ ds, d < 10) : ∀ c ∈ ds.map (· + 48), 48 ≤ c ∧ c ≤ 57 := by
  intro c hc
  obtain ⟨d, hd, rfl⟩ := List.mem_map.mp hc
  have := h d hd
  omega

theorem renderNat_digits (n : Nat) : ∀ c ∈ renderNat n, 48 ≤ c ∧ c ≤ 57 := by
  obtain ⟨ds, _, hlt, hr, _⟩ := renderNat_spec n
  exact hr ▸ digit_chars ds hlt

theorem renderNat_head (n : Nat) : ∃ c r, renderNat n = c :: r ∧ c ≠ 45 := by
  obtain ⟨ds, hne, _, hr, _⟩ := renderNat_spec n
  cases ds with
  | nil => exact absurd rfl hne
  | cons d t => exact ⟨d + 48, t.map (· + 48), hr, by omega⟩

theorem parseInt_nonneg (c : Nat) (r : List Nat) (hc : c ≠ 45) : parseInt (c :: r) = (parseNat (c :: r)).map fun n => (n : Int) := by
  unfold parseInt
  split
  · rename_i heq; exact absurd (List.cons.inj heq).1 hc
  · rfl

theorem signBody_nonneg (c : Nat) (r : List Nat) (hc : c ≠ 45) : signBody (c :: r) = (false, c :: r) := by
  unfold signBody
  split
  · rename_i heq; exact absurd (List.cons.inj heq).1 hc
  · rfl

/-- **C13, integer cells: `int(str(n)) = n` for every integer** -/
theorem C13_int_roundtrip (n : Int) : parseInt (renderInt n) = some n := by
  cases n with
  | ofNat k =>
    obtain ⟨c, r, hcr, hc⟩ := renderNat_head k
    rw [renderInt, hcr, parseInt_nonneg c r hc, ← hcr, parse_render_nat]
    rfl
  | negSucc k =>
    simp only [renderInt, parseInt, parse_render_nat]
    congr 1

example : parseInt [45, 49, 50, 48] = some (-120) ∧ parseInt [49, 120] = none ∧ parseInt [] = none ∧ parseInt [45] = none := by decide
/-- `decide` does not evaluate `digitsRev` (well-founded recursion on `n / 10`); `simp` unfolds its equations -/
example : renderInt (-120) = [45, 49, 50, 48] := by
  show 45 :: renderNat 120 = _
  simp [renderNat, digitsRev]

theorem takeWhile_digits (ds rest : List Nat) (h : ∀ c ∈ ds, 48 ≤ c ∧ c ≤ 57) :
    (ds ++ 46 :: rest).takeWhile (· != 46) = ds ∧ (ds ++ 46 :: rest).dropWhile (· != 46) = 46 :: rest := by
  have hp : ∀ c ∈ ds, (c != 46) = true := fun c hc => by have := h c hc; simp; omega
  rw [List.takeWhile_append_of_pos hp, List.dropWhile_append_of_pos hp]
  simp

theorem signBody_render (neg : Bool) (a : Nat) (rest : List Nat) :
    signBody ((if neg then [45] else []) ++ renderNat a ++ rest) = (neg, renderNat a ++ rest) := by
  cases neg with
  | true => rfl
  | false =>
    obtain ⟨c, r, hcr, hc⟩ := renderNat_head a
    rw [hcr]
    exact signBody_nonneg c (r ++ rest) hc

/-- the `w` low decimal digits of `r`, most significant first (`frac4`, `frac2` are `w = 4, 2`) -/
def lowDigits : Nat → Nat → List Nat
  | 0, _ => []
  | w + 1, r => lowDigits w (r / 10) ++ [r % 10]

theorem lowDigits_lt : ∀ w r, ∀ d ∈ lowDigits w r, d < 10
  | 0, _ => by simp [lowDigits]
  | w + 1, r =>
    List.forall_mem_append.mpr ⟨lowDigits_lt w _, List.forall_mem_singleton.mpr (Nat.mod_lt _ (by decide))⟩

theorem lowDigits_value : ∀ w r a, (lowDigits w r).foldl (fun a d => a * 10 + d) a = a * 10 ^ w + r % 10 ^ w
  | 0, r, a => by simp [lowDigits, Nat.mod_one]
  | w + 1, r, a => by
    rw [lowDigits, List.foldl_append, lowDigits_value w, Nat.pow_succ, Nat.mul_comm (10 ^ w) 10, Nat.mod_mul]
    simp only [List.foldl_cons, List.foldl_nil, Nat.add_mul, Nat.mul_assoc, Nat.mul_comm (10 ^ w) 10]
    omega

theorem parse_lowDigits (w r : Nat) (hw : w ≠ 0) (hr : r < 10 ^ w) : parseNat ((lowDigits w r).map (· + 48)) = some r := by
  have hne : lowDigits w r ≠ [] := by
    cases w with
    | zero => exact absurd rfl hw
    | succ w => simp [lowDigits]
  rw [parseNat_digits _ hne (lowDigits_lt w r), lowDigits_value, Nat.zero_mul, Nat.zero_add, Nat.mod_eq_of_lt hr]

/-- no blank and no tab: a fixed-point text is one token of a `<dst>` line and one field of a `<scorer>` line -/
theorem fixedText_chars (neg : Bool) (a : Nat) (fr : List Nat) (hfr : ∀ c ∈ fr, 48 ≤ c ∧ c ≤ 57) :
    ∀ c ∈ (if neg then [45] else []) ++ renderNat a ++ 46 :: fr, 45 ≤ c ∧ c ≤ 57 := by
  intro c hc
  simp only [List.mem_append, List.mem_cons] at hc
  rcases hc with (hc | hc) | rfl | hc
  · cases neg <;> simp at hc; omega
  · have := renderNat_digits a c hc; omega
  · omega
  · have := hfr c hc; omega

theorem frac4_eq (r : Nat) : frac4 r = (lowDigits 4 r).map (· + 48) := by
  simp [frac4, lowDigits, Nat.div_div_eq_div_mul]

theorem frac2_eq (r : Nat) : frac2 r = (lowDigits 2 r).map (· + 48) := by simp [frac2, lowDigits]

theorem renderFixed4_chars (neg : Bool) (k : Nat) : ∀ c ∈ renderFixed4 neg k, 45 ≤ c ∧ c ≤ 57 :=
  fixedText_chars neg _ _ (frac4_eq _ ▸ digit_chars _ (lowDigits_lt 4 _))

theorem renderFixed2_chars (neg : Bool) (k : Nat) : ∀ c ∈ renderFixed2 neg k, 45 ≤ c ∧ c ≤ 57 :=
  fixedText_chars neg _ _ (frac2_eq _ ▸ digit_chars _ (lowDigits_lt 2 _))

theorem parse_frac4 (r : Nat) (hr : r < 10000) : parseNat (frac4 r) = some r := by
  rw [frac4_eq]
  exact parse_lowDigits 4 r (by decide) hr

/-- **C13, a number written with four decimals reads back** (sign and the rounded magnitude `k = |x|·10⁴`) -/
theorem C13_fixed4_roundtrip (neg : Bool) (k : Nat) : parseFixed4 (renderFixed4 neg k) = some (neg, k) := by
  obtain ⟨t1, t2⟩ := takeWhile_digits (renderNat (k / 10000)) (frac4 (k % 10000)) (renderNat_digits _)
  have hlen : (frac4 (k % 10000)).length = 4 := rfl
  simp only [parseFixed4, renderFixed4, signBody_render, t1, t2, hlen, beq_self_eq_true, if_true, parse_render_nat,
    parse_frac4 _ (Nat.mod_lt k (by decide)), Nat.div_add_mod']

example : renderFixed4 true 0 = [45, 48, 46, 48, 48, 48, 48] ∧ parseFixed4 [45, 48, 46, 48, 48, 48, 48] = some (true, 0) ∧
    parseFixed4 [49, 46, 53] = none := by decide

theorem parse_frac2 (r : Nat) (hr : r < 100) : parseNat (frac2 r) = some r := by
  rw [frac2_eq]
  exact parse_lowDigits 2 r (by decide) hr

/-- **C13, a number written with two decimals reads back** (the values of the scorer block) -/
theorem C13_fixed2_roundtrip (neg : Bool) (k : Nat) : parseFixed2 (renderFixed2 neg k) = some (neg, k) := by
  obtain ⟨t1, t2⟩ := takeWhile_digits (renderNat (k / 100)) (frac2 (k % 100)) (renderNat_digits _)
  have hlen : (frac2 (k % 100)).length = 2 := rfl
  simp only [parseFixed2, renderFixed2, signBody_render, t1, t2, hlen, beq_self_eq_true, if_true, parse_render_nat,
    parse_frac2 _ (Nat.mod_lt k (by decide)), Nat.div_add_mod']

example : renderFixed2 true 35 = [45, 48, 46, 51, 53] ∧ parseFixed2 [45, 48, 46, 51, 53] = some (true, 35) := by decide

end Verif.Num
