import Verif.Props.C04Update
/-!
# C04 — the wordlist clause: every cognate set aligned, the rows written into one column

`Alignments.align` builds one multiple alignment per cognate set with two or more members (each of them
is a `Multiple` object: C04's first sentence, `C04_progressive` … `C04_update`) and `_msa2col` writes the
rows into the alignment column.  `C04_wordlist`: if every set lists as many rows as members, its rows
have one length and row `i` de-gaps to the segments of member `i`, and no word is a member twice, then
in the written column

* the members of a set all carry rows of that set's length,
* the entry of every member de-gaps to exactly the word's segments,
* a word that is in no such set keeps its segments unchanged.
-/
namespace Verif.MSA
variable {T : Type}

/-- all (id, row) assignments, in the order they are made -/
def colAssigns (msas : List (List Nat × List (List T))) : List (Nat × List T) := msas.flatMap fun m => m.1.zip m.2

theorem mem_colAssigns (msas : List (List Nat × List (List T))) (a : Nat × List T) :
    a ∈ colAssigns msas ↔ ∃ m ∈ msas, ∃ (i : Nat) (h1 : i < m.1.length) (h2 : i < m.2.length), a = (m.1[i], m.2[i]) := by
  simp only [colAssigns, List.mem_flatMap, mem_zip_iff_getElem]

theorem msa2col_entry (ids : List Nat) (tokens : Nat → List T) (msas : List (List Nat × List (List T)))
    (k : Nat) (hk : k ∈ ids) :
    (∀ row, (∀ a ∈ colAssigns msas, a.1 = k → a.2 = row) → (k, row) ∈ colAssigns msas → (k, row) ∈ msa2col ids tokens msas) ∧
    ((∀ a ∈ colAssigns msas, a.1 ≠ k) → (k, tokens k) ∈ msa2col ids tokens msas) := by
  obtain ⟨h1, h2⟩ := lastAssign_eq (colAssigns msas) k (tokens k)
  exact ⟨fun row huniq hmem => List.mem_map.mpr ⟨k, hk, congrArg (Prod.mk k) (h1 row hmem huniq)⟩,
    fun hnone => List.mem_map.mpr ⟨k, hk, congrArg (Prod.mk k) (h2 hnone)⟩⟩

variable [DecidableEq T]

/-- what is assumed of the per-set alignments (each is the result of a `Multiple` run: C04's first sentence) -/
structure SetsOk (gap : T) (tokens : Nat → List T) (msas : List (List Nat × List (List T))) : Prop where
  sameLen : ∀ m ∈ msas, m.1.length = m.2.length
  rect : ∀ m ∈ msas, ∃ w, ∀ r ∈ m.2, r.length = w
  degap : ∀ m ∈ msas, ∀ (i : Nat) (h1 : i < m.1.length) (h2 : i < m.2.length), (m.2[i]).filter (· ≠ gap) = tokens m.1[i]
  once : ∀ a ∈ colAssigns msas, ∀ b ∈ colAssigns msas, a.1 = b.1 → a = b        -- no word is a member twice

/-- **C04, the wordlist clause** -/
theorem C04_wordlist (gap : T) (ids : List Nat) (tokens : Nat → List T) (msas : List (List Nat × List (List T)))
    (hok : SetsOk gap tokens msas) :
    (∀ m ∈ msas, ∃ w, ∀ (i : Nat) (h1 : i < m.1.length) (h2 : i < m.2.length), m.1[i] ∈ ids →
      (m.1[i], m.2[i]) ∈ msa2col ids tokens msas ∧ (m.2[i]).length = w ∧ (m.2[i]).filter (· ≠ gap) = tokens m.1[i]) ∧
    (∀ k ∈ ids, (∀ m ∈ msas, k ∉ m.1) → (k, tokens k) ∈ msa2col ids tokens msas) := by
  constructor
  · intro m hm
    obtain ⟨w, hw⟩ := hok.rect m hm
    refine ⟨w, fun i h1 h2 hk => ⟨?_, hw _ (List.getElem_mem h2), hok.degap m hm i h1 h2⟩⟩
    have hmem : (m.1[i], m.2[i]) ∈ colAssigns msas := (mem_colAssigns msas _).mpr ⟨m, hm, i, h1, h2, rfl⟩
    exact (msa2col_entry ids tokens msas m.1[i] hk).1 m.2[i]
      (fun a ha ha1 => congrArg Prod.snd (hok.once a ha _ hmem ha1)) hmem
  · intro k hk hnone
    exact (msa2col_entry ids tokens msas k hk).2
      (List.forall_mem_flatMap.mpr fun m hm a ha hak => hnone m hm (hak ▸ (List.of_mem_zip ha).1))

/-- two sets of two words and a singleton word -/
example : msa2col [1, 2, 3, 5, 8] (fun k => if k = 8 then ['a', 'b'] else [])
    [([1, 3], [['h', 'a', 'n', 't'], ['h', 'a', 'n', 'd']]), ([2, 5], [['f', 'u', 's', '-'], ['f', 'u', '-', 't']])] =
    [(1, ['h', 'a', 'n', 't']), (2, ['f', 'u', 's', '-']), (3, ['h', 'a', 'n', 'd']), (5, ['f', 'u', '-', 't']), (8, ['a', 'b'])] := by
  decide

end Verif.MSA
