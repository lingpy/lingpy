import Verif.Props.C05Order
import Verif.Props.C03Edit
import Verif.Props.C06
/-!
# C06 — the two "consequently" clauses

* When "distance ≤ threshold" is an equivalence on the words of a concept (the consonant-class
  method: distance 0 for equal first-two-consonant-class keys, 1 otherwise), every linkage whose value lies
  between the least and the greatest cross distance at the threshold returns exactly its classes
  (`classes_of_mid`): single, complete, and average (`C06Avg.lean`).
* For single linkage over the matrix computed from the edit distance, the clusters are the connected
  components of the graph joining words whose Levenshtein distance – the minimum cost over all edit
  scripts, `C03_edit_eq_lev` – normalised in the same way is `≤ t`.
-/
namespace Verif.Cluster
open Verif.Align ScoreOps ScoreLaws
variable {S : Type} [ScoreOps S] [LinearOrder S] [ScoreLaws S]

/-- at the threshold the linkage value lies between the least and the greatest cross distance -/
def Mid (link : Link) (M : Nat → Nat → S) (t : S) : Prop :=
  ∀ A B, A ≠ [] → B ≠ [] →
    (linkage link M A B ≤ t → ∃ a ∈ A, ∃ b ∈ B, M a b ≤ t) ∧
    ((∀ a ∈ A, ∀ b ∈ B, M a b ≤ t) → linkage link M A B ≤ t)

theorem mid_single (M : Nat → Nat → S) (t : S) : Mid .single M t := by
  intro A B hA hB
  obtain ⟨a, ha⟩ := List.exists_mem_of_ne_nil A hA
  obtain ⟨b, hb⟩ := List.exists_mem_of_ne_nil B hB
  rw [single_le M t A B hA hB]
  exact ⟨id, fun h => ⟨a, ha, b, hb, h a ha b hb⟩⟩

theorem mid_complete (M : Nat → Nat → S) (t : S) : Mid .complete M t := by
  intro A B hA hB
  obtain ⟨a, ha⟩ := List.exists_mem_of_ne_nil A hA
  obtain ⟨b, hb⟩ := List.exists_mem_of_ne_nil B hB
  rw [complete_le M t A B hA hB]
  exact ⟨fun h => ⟨a, ha, b, hb, h a ha b hb⟩, id⟩

/-- **equivalence matrices, any such linkage**: an accepted merge has a related cross pair, hence (classes!) only
related cross pairs, so clusters stay inside a class; at the stop one related cross pair would make the linkage `≤ t`. -/
theorem classes_of_mid (cfg : Cfg) (hu : cfg.unordered = false) (M : Nat → Nat → S) (t : S) (n : Nat)
    (hmid : Mid cfg.link M t)
    (hsymm : ∀ x y, M x y ≤ t → M y x ≤ t) (htrans : ∀ x y z, M x y ≤ t → M y z ≤ t → M x z ≤ t) :
    (∀ c ∈ flatCluster cfg M t n, ∀ x ∈ c.2, ∀ y ∈ c.2, x ≠ y → M x y ≤ t) ∧
    (∀ p q (hp : p < (flatCluster cfg M t n).length) (hq : q < (flatCluster cfg M t n).length), p ≠ q →
      ∀ x ∈ (flatCluster cfg M t n)[p].2, ∀ y ∈ (flatCluster cfg M t n)[q].2, ¬ M x y ≤ t) := by
  -- "equal or related" on both sides of a related pair: no `M x x ≤ t` is asked for
  have chain : ∀ {a x y b}, a = x ∨ M a x ≤ t → M x y ≤ t → y = b ∨ M y b ≤ t → M a b ≤ t := by
    rintro a x y b (rfl | h1) h (rfl | h2)
    · exact h
    · exact htrans _ _ _ h h2
    · exact htrans _ _ _ h1 h
    · exact htrans _ _ _ (htrans _ _ _ h1 h) h2
  have hpure : ∀ c ∈ flatCluster cfg M t n, ∀ x ∈ c.2, ∀ y ∈ c.2, x = y ∨ M x y ≤ t := by
    refine flatCluster_pairwise cfg M t (fun x y => x = y ∨ M x y ≤ t) (fun _ => Or.inl rfl) ?_ n
    intro A B hA hB hQA hQB hm x hx y hy
    obtain ⟨u, hu', v, hv, huv⟩ := (hmid A B hA hB).1 ((le_iff _ _).mp hm)
    have hxy := chain (hQA x hx u hu') huv (hQB v hv y hy)
    exact ⟨Or.inr hxy, Or.inr (hsymm _ _ hxy)⟩
  refine ⟨fun c hc x hx y hy hne => (hpure c hc x hx y hy).resolve_left hne, ?_⟩
  intro p q hp hq hne x hx y hy hxy
  have hN := nonEmpty_flatCluster cfg M t n
  have hle := (hmid _ _ (hN _ (List.getElem_mem hp)) (hN _ (List.getElem_mem hq))).2 fun a ha b hb =>
    chain (hpure _ (List.getElem_mem hp) a ha x hx) hxy (hpure _ (List.getElem_mem hq) y hy b hb)
  exact not_le.mpr (C05_stop cfg hu M t n p q hp hq hne) hle

/-- **equivalence matrices, single linkage**: two different items share a cluster iff they are related -/
theorem C06_classes_single (cfg : Cfg) (hl : cfg.link = .single) (hu : cfg.unordered = false)
    (M : Nat → Nat → S) (t : S) (n : Nat)
    (hsymm : ∀ x y, M x y ≤ t → M y x ≤ t) (htrans : ∀ x y z, M x y ≤ t → M y z ≤ t → M x z ≤ t) :
    (∀ c ∈ flatCluster cfg M t n, ∀ x ∈ c.2, ∀ y ∈ c.2, x ≠ y → M x y ≤ t) ∧
    (∀ p q (hp : p < (flatCluster cfg M t n).length) (hq : q < (flatCluster cfg M t n).length), p ≠ q →
      ∀ x ∈ (flatCluster cfg M t n)[p].2, ∀ y ∈ (flatCluster cfg M t n)[q].2, ¬ M x y ≤ t) :=
  classes_of_mid cfg hu M t n (hl ▸ mid_single M t) hsymm htrans

-- `hrefl` is not used: `classes_of_mid` does not ask for reflexivity
set_option linter.unusedVariables false in
/-- **equivalence matrices, complete linkage** (symmetric matrix) -/
theorem C06_classes_complete (cfg : Cfg) (hl : cfg.link = .complete) (hu : cfg.unordered = false)
    (M : Nat → Nat → S) (hsym : ∀ i j, M i j = M j i) (t : S) (n : Nat)
    (hrefl : ∀ x, M x x ≤ t) (htrans : ∀ x y z, M x y ≤ t → M y z ≤ t → M x z ≤ t) :
    (∀ c ∈ flatCluster cfg M t n, ∀ x ∈ c.2, ∀ y ∈ c.2, x ≠ y → M x y ≤ t) ∧
    (∀ p q (hp : p < (flatCluster cfg M t n).length) (hq : q < (flatCluster cfg M t n).length), p ≠ q →
      ∀ x ∈ (flatCluster cfg M t n)[p].2, ∀ y ∈ (flatCluster cfg M t n)[q].2, ¬ M x y ≤ t) :=
  classes_of_mid cfg hu M t n (hl ▸ mid_complete M t) (fun x y h => hsym x y ▸ h) htrans

/-- **edit distance with single linkage**, for any function `f` of the edit distance and the two lengths -/
theorem C06_editdist_single {α : Type} [DecidableEq α] (cfg : Cfg) (hl : cfg.link = .single)
    (hu : cfg.unordered = false) (w : Nat → List α) (f : Nat → Nat → Nat → S) (t : S) (n : Nat)
    (d : Nat → Nat → Nat)
    (hd : ∀ i j, (∀ ms, IsPath (w j).length (w i).length ms → d i j ≤ editCost (w i) (w j) ms 0 0) ∧
                 (∃ ms, IsPath (w j).length (w i).length ms ∧ editCost (w i) (w j) ms 0 0 = d i j)) :
    let M := fun i j => f (editDist (w i) (w j)) (w i).length (w j).length
    let G := fun i j => f (d i j) (w i).length (w j).length
    (∀ c ∈ flatCluster cfg M t n, ∀ x ∈ c.2, ∀ y ∈ c.2, Connected G t x y) ∧
    (∀ p q (hp : p < (flatCluster cfg M t n).length) (hq : q < (flatCluster cfg M t n).length), p ≠ q →
      ∀ x ∈ (flatCluster cfg M t n)[p].2, ∀ y ∈ (flatCluster cfg M t n)[q].2, t < G x y) := by
  intro M G
  have hMG : M = G := by
    funext i j
    simp only [M, G]
    congr 1
    obtain ⟨h1, ms, hp, hc⟩ := hd i j
    obtain ⟨e1, ms', hp', hc'⟩ := C03_edit_eq_lev (w i) (w j)
    have a := h1 ms' hp'
    have b := e1 ms hp
    omega
  rw [← hMG]
  exact ⟨C05_single_connected cfg hl M t n,
    fun p q hp hq hne x hx y hy => C05_single_separated cfg hl hu M t n p q hp hq hne x y hx hy⟩

end Verif.Cluster

namespace Verif.Cognates

/-- **C10 (cognate sets)**: if, concept by concept, the clustering at the higher threshold is coarser
(equal labels stay equal – `C10_refines` for every linkage), then two words that share a cognate id at
the lower threshold share one at the higher threshold: sets only merge. -/
theorem C10_cognate_sets (parts1 parts2 : List (List Nat × List Nat)) (hwf1 : WF parts1) (hwf2 : WF parts2)
    (hsame : parts1.map (·.1) = parts2.map (·.1))
    (href : ∀ (c : Nat) (p1 p2 : List Nat × List Nat), parts1[c]? = some p1 → parts2[c]? = some p2 →
      ∀ (i j : Nat), i < p1.1.length → j < p1.1.length →
      p1.2[i]? = p1.2[j]? → p2.2[i]? = p2.2[j]?)
    (k1 k2 c c' i j : Nat) (p1 p1' : List Nat × List Nat) (hp1 : parts1[c]? = some p1) (hp1' : parts1[c']? = some p1')
    (hi : i < p1.1.length) (hj : j < p1'.1.length)
    (heq : idAt k1 parts1 c i = idAt k1 parts1 c' j) :
    idAt k2 parts2 c i = idAt k2 parts2 c' j := by
  obtain rfl := idAt_concept parts1 hwf1 k1 c c' i j p1 hp1 hi heq
  obtain rfl : p1 = p1' := Option.some.inj (hp1 ▸ hp1')
  have hlab := (idAt_eq_iff parts1 hwf1 k1 c i j p1 hp1 hi hj).mp heq
  -- the same words stand at `c` in `parts2`
  have hidx := congrArg (·[c]?) hsame
  simp only [List.getElem?_map, hp1, Option.map_some] at hidx
  obtain ⟨p2, hp2, hidx⟩ := Option.map_eq_some_iff.mp hidx.symm
  exact (idAt_eq_iff parts2 hwf2 k2 c i j p2 hp2 (hidx ▸ hi) (hidx ▸ hj)).mpr
    (href c p1 p2 hp1 hp2 i j hi hj hlab)

end Verif.Cognates
