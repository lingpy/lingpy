import Verif.Props.C09NJRun
/-!
# C09 — from a tree with branch lengths to its split system

`Props/C09Cherry.lean` describes a tree metric without a tree, as a weighted system of compatible splits.
This file closes the gap to the property's wording ("an additive metric generated from a tree with
positive branch lengths"): for a rooted binary tree with branch lengths (`PT`; an unrooted tree is one
of its rootings, the two root edges then carry the same split) the path length between two leaves is
the split metric of the list of its edges (`dist_splits_eq_pd`), the splits are pairwise compatible
(`splits_compat`) and positive when the branch lengths are, hence

`C09_nj_tree`: for every such tree on the taxa `0 … n-1`, Neighbor-Joining (the model of `_neighbor`, exact
arithmetic) on the matrix of its path lengths returns a tree matrix whose path sums are the path lengths
of the generating tree, for every pair of taxa.
-/
namespace Verif.TreeBuild
open Verif.NJ

inductive PT where
  | leaf (i : Nat)
  | node (l : PT) (wl : ℚ) (r : PT) (wr : ℚ)

namespace PT

def leaves : PT → List Nat
  | leaf i => [i]
  | node l _ r _ => l.leaves ++ r.leaves

/-- length of the path from the root of the (sub)tree down to leaf `i` -/
def depth : PT → Nat → ℚ
  | leaf _, _ => 0
  | node l wl r wr, i =>
    if i ∈ l.leaves then wl + l.depth i else if i ∈ r.leaves then wr + r.depth i else 0

/-- length of the path between two leaves -/
def pd : PT → Nat → Nat → ℚ
  | leaf _, _, _ => 0
  | node l wl r wr, i, j =>
    if i ∈ l.leaves ∧ j ∈ l.leaves then l.pd i j
    else if i ∈ r.leaves ∧ j ∈ r.leaves then r.pd i j
    else if i ∈ l.leaves ∧ j ∈ r.leaves then (wl + l.depth i) + (wr + r.depth j)
    else if i ∈ r.leaves ∧ j ∈ l.leaves then (wr + r.depth i) + (wl + l.depth j)
    else 0

/-- one split per edge: the leaves below it against the rest -/
def splits : PT → List (Split × ℚ)
  | leaf _ => []
  | node l wl r wr =>
    ((fun m => decide (m ∈ l.leaves)), wl) :: ((fun m => decide (m ∈ r.leaves)), wr) :: (l.splits ++ r.splits)

def Pos : PT → Prop
  | leaf _ => True
  | node l wl r wr => 0 < wl ∧ 0 < wr ∧ l.Pos ∧ r.Pos

end PT

theorem dist_append (L1 L2 : List (Split × ℚ)) (x y : Nat) : dist (L1 ++ L2) x y = dist L1 x y + dist L2 x y :=
  wsum_append L1 L2 fun s => sep s x y

theorem dist_cons (p : Split × ℚ) (L : List (Split × ℚ)) (x y : Nat) : dist (p :: L) x y = p.2 * sep p.1 x y + dist L x y :=
  wsum_cons p L fun s => sep s x y

theorem splits_below (t : PT) : ∀ p ∈ t.splits, ∀ m, p.1 m = true → m ∈ t.leaves := by
  induction t with
  | leaf i => exact fun p hp => nomatch hp
  | node l wl r wr ihl ihr =>
    simp only [PT.splits, PT.leaves, List.forall_mem_cons, List.forall_mem_append, decide_eq_true_eq]
    exact ⟨fun _ => List.mem_append_left _, fun _ => List.mem_append_right _,
      fun p hp m hm => List.mem_append_left _ (ihl p hp m hm),
      fun p hp m hm => List.mem_append_right _ (ihr p hp m hm)⟩

theorem dist_out (t : PT) (i j : Nat) (hi : i ∉ t.leaves) (hj : j ∉ t.leaves) : dist t.splits i j = 0 := by
  refine (wsum_congr (f := fun s => sep s i j) (g := fun _ => 0) fun p hp => ?_).trans (wsum_zero _)
  have h1 : p.1 i = false := Bool.eq_false_iff.mpr fun h => hi (splits_below t p hp i h)
  have h2 : p.1 j = false := Bool.eq_false_iff.mpr fun h => hj (splits_below t p hp j h)
  simp [sep, h1, h2]

/-- a leaf of the subtree and a leaf outside: separated exactly by the edges above the leaf -/
theorem dist_depth (t : PT) (hnd : t.leaves.Nodup) (i j : Nat) (hi : i ∈ t.leaves) (hj : j ∉ t.leaves) :
    dist t.splits i j = t.depth i := by
  induction t with
  | leaf k => simp [PT.splits, PT.depth, dist]
  | node l wl r wr ihl ihr =>
    simp only [PT.leaves, List.mem_append, not_or] at hi hj
    have hnd' := List.nodup_append.mp hnd
    simp only [PT.splits, dist_cons, dist_append, PT.depth]
    rcases hi with hi | hi
    · have hir : i ∉ r.leaves := fun h => hnd'.2.2 i hi i h rfl
      rw [ihl hnd'.1 hi hj.1, dist_out r i j hir hj.2]
      simp [sep, hi, hir, hj.1, hj.2]
    · have hil : i ∉ l.leaves := fun h => hnd'.2.2 i h i hi rfl
      rw [ihr hnd'.2.1 hi hj.2, dist_out l i j hil hj.1]
      simp [sep, hi, hil, hj.1, hj.2]

theorem dist_comm' (L : List (Split × ℚ)) (x y : Nat) : dist L x y = dist L y x := dist_comm L x y

theorem dist_splits_eq_pd (t : PT) (hnd : t.leaves.Nodup) (i j : Nat) (hi : i ∈ t.leaves) (hj : j ∈ t.leaves) :
    dist t.splits i j = t.pd i j := by
  induction t with
  | leaf k => simp [PT.splits, PT.pd, dist]
  | node l wl r wr ihl ihr =>
    simp only [PT.leaves, List.mem_append] at hi hj
    have hnd' := List.nodup_append.mp hnd
    have hlr : ∀ m, m ∈ l.leaves → m ∉ r.leaves := fun m h1 h2 => hnd'.2.2 m h1 m h2 rfl
    simp only [PT.splits, dist_cons, dist_append, PT.pd]
    rcases hi with hi | hi <;> rcases hj with hj | hj
    · have hir := hlr i hi
      have hjr := hlr j hj
      rw [ihl hnd'.1 hi hj, dist_out r i j hir hjr]
      simp [sep, hi, hj, hir, hjr]
    · have hir := hlr i hi
      have hjl : j ∉ l.leaves := fun h => hlr j h hj
      rw [dist_depth l hnd'.1 i j hi hjl, dist_comm r.splits i j, dist_depth r hnd'.2.1 j i hj hir]
      simp [sep, hi, hj, hir, hjl]
      ring
    · have hil : i ∉ l.leaves := fun h => hlr i h hi
      have hjr := hlr j hj
      rw [dist_comm l.splits i j, dist_depth l hnd'.1 j i hj hil, dist_depth r hnd'.2.1 i j hi hjr]
      simp [sep, hi, hj, hil, hjr]
      ring
    · have hil : i ∉ l.leaves := fun h => hlr i h hi
      have hjl : j ∉ l.leaves := fun h => hlr j h hj
      rw [ihr hnd'.2.1 hi hj, dist_out l i j hil hjl]
      simp [sep, hi, hj, hil, hjl]

/-- the clades of a tree are nested or disjoint -/
theorem splits_compat (k : Nat) (t : PT) (hnd : t.leaves.Nodup) : ∀ p ∈ t.splits, ∀ q ∈ t.splits, Compat k p.1 q.1 := by
  -- `Compat` is symmetric and reflexive, so each unordered pair of edges is looked at once
  suffices h : t.splits.Pairwise fun p q => Compat k p.1 q.1 from
    fun p hp q hq => @List.Pairwise.forall_of_forall _ _ _ ⟨fun _ _ h => compat_symm k _ _ h⟩
      (fun p _ => compat_of_sub true true fun _ _ h => h) h p hp q hq
  induction t with
  | leaf i => exact List.Pairwise.nil
  | node l wl r wr ihl ihr =>
    have hnd' := List.nodup_append.mp hnd
    -- two sets of leaves, one under `l` and one under `r`, are disjoint; a set under `l` lies in the clade of `l`
    have disj : ∀ {s t : Split}, (∀ m, s m = true → m ∈ l.leaves) → (∀ m, t m = true → m ∈ r.leaves) → Compat k s t :=
      fun hs ht => ⟨true, true, fun m _ h => hnd'.2.2 m (hs m h.1) m (ht m h.2) rfl⟩
    have nest : ∀ {s : Split} (A : List Nat), (∀ m, s m = true → m ∈ A) → Compat k (fun m => decide (m ∈ A)) s :=
      fun A hs => compat_symm k _ _ (compat_of_sub true true fun m _ h => decide_eq_true (hs m h))
    have indL : ∀ m, decide (m ∈ l.leaves) = true → m ∈ l.leaves := fun m => of_decide_eq_true
    have indR : ∀ m, decide (m ∈ r.leaves) = true → m ∈ r.leaves := fun m => of_decide_eq_true
    simp only [PT.splits, List.pairwise_cons, List.pairwise_append, List.mem_cons, List.mem_append]
    refine ⟨?_, ?_, ihl hnd'.1, ihr hnd'.2.1, fun p hp q hq => disj (splits_below l p hp) (splits_below r q hq)⟩
    · rintro q (rfl | hq | hq)
      · exact disj indL indR
      · exact nest _ (splits_below l q hq)
      · exact disj indL (splits_below r q hq)
    · rintro q (hq | hq)
      · exact compat_symm k _ _ (disj (splits_below l q hq) indR)
      · exact nest _ (splits_below r q hq)

theorem splits_pos (t : PT) (h : t.Pos) : ∀ p ∈ t.splits, 0 < p.2 := by
  induction t with
  | leaf i => exact fun p hp => nomatch hp
  | node l wl r wr ihl ihr =>
    obtain ⟨h1, h2, h3, h4⟩ := h
    simp only [PT.splits, List.forall_mem_cons, List.forall_mem_append]
    exact ⟨h1, h2, ihl h3, ihr h4⟩

/-- **C09, Neighbor-Joining recovers the path lengths of the generating tree (exact arithmetic)** -/
theorem C09_nj_tree (t : PT) (n : Nat) (hn : 1 ≤ n) (hperm : t.leaves.Perm (List.range n)) (hpos : t.Pos)
    (M : List (List ℚ)) (hM : Rep n M t.pd) :
    ∀ i < n, ∀ j < n, i ≠ j → ∃ v, (((i, j), v) ∈ (decode n (neighbor M n).rows).dists ∨
      ((j, i), v) ∈ (decode n (neighbor M n).rows).dists) ∧ v = t.pd i j := by
  have hnd : t.leaves.Nodup := hperm.nodup_iff.mpr List.nodup_range
  have hmem : ∀ m < n, m ∈ t.leaves := fun m hm => hperm.mem_iff.mpr (by simpa using hm)
  have hS : System n t.splits := ⟨splits_pos t hpos, splits_compat n t hnd⟩
  have hR : Rep n M (dist t.splits) :=
    ⟨hM.rows, hM.cols, fun i hi j hj => by
      rw [hM.val i hi j hj, dist_splits_eq_pd t hnd i j (hmem i hi) (hmem j hj)]⟩
  intro i hi j hj hij
  obtain ⟨v, hv, hv2⟩ := (C09_nj_path_sums n hn M t.splits hS hR).2 i hi j hj hij
  exact ⟨v, hv, by rw [hv2, dist_splits_eq_pd t hnd i j (hmem i hi) (hmem j hj)]⟩

/-! the hypotheses of `C09_nj_tree` are satisfiable: the quartet ((0:1,1:2):2,(2:3,3:4):3) and its path lengths -/

def njExT : PT := .node (.node (.leaf 0) 1 (.leaf 1) 2) 2 (.node (.leaf 2) 3 (.leaf 3) 4) 3

example : njExT.leaves.Perm (List.range 4) ∧ njExT.Pos ∧ Rep 4 njExM njExT.pd :=
  ⟨by decide, by simp [njExT, PT.Pos], ⟨rfl, by decide +kernel, by decide +kernel⟩⟩

end Verif.TreeBuild
