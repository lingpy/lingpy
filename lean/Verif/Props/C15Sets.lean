import Mathlib.Data.Finset.Card
import Mathlib.Data.Finset.SymmDiff
import Verif.Props.C15
/-!
# C15 — distances are functions of the sets of splits

Sets of taxa are strictly sorted lists (`toSet`).  A split `{u, L \ u}` has a canonical side
`canon L u` (the one holding the smallest taxon).  For lists of splits that are *well formed*
(`WFS`: subsets of `L`, pairwise different as splits) – which is what `bipartition` returns –
* the number of shared splits counted by `grf` is `|A* ∩ B*|` for the sets `A*`, `B*` of canonical
  sides, hence `rf` is symmetric, equals `|A* Δ B*| / (|A*| + |B*|)` and is never negative;
* the compatibility count of the generalised distance is a function of `A*` and `B*` as well;
* `A*` only depends on the *sets* of leaves below the internal nodes, which do not change when the
  children of any node are listed in another order.
-/
namespace Verif.TreeDist

abbrev SSorted (u : List Nat) : Prop := u.Pairwise (· < ·)

theorem mem_insertSorted (x y : Nat) : ∀ (l : List Nat), y ∈ insertSorted x l ↔ y = x ∨ y ∈ l
  | [] => by simp [insertSorted]
  | z :: zs => by
    simp only [insertSorted]
    split
    · simp
    · split
      · rename_i h; subst h; simp
      · rw [List.mem_cons, mem_insertSorted x y zs, List.mem_cons]; exact or_left_comm

theorem sorted_insertSorted (x : Nat) : ∀ (l : List Nat), SSorted l → SSorted (insertSorted x l)
  | [], _ => by simp [insertSorted]
  | z :: zs, h => by
    simp only [insertSorted]
    have hz := List.pairwise_cons.mp h
    split
    · rename_i hlt
      refine List.pairwise_cons.mpr ⟨List.forall_mem_cons.mpr ⟨hlt, fun a ha => ?_⟩, h⟩
      exact Nat.lt_trans hlt (hz.1 a ha)
    · split
      · exact h
      · rename_i h1 h2
        refine List.pairwise_cons.mpr ⟨?_, sorted_insertSorted x zs hz.2⟩
        intro a ha
        rcases (mem_insertSorted x a zs).mp ha with rfl | ha
        · omega
        · exact hz.1 a ha

theorem mem_toSet (y : Nat) : ∀ (l : List Nat), y ∈ toSet l ↔ y ∈ l
  | [] => by simp [toSet]
  | x :: xs => by
    have ih := mem_toSet y xs
    simp only [toSet, List.foldr_cons] at ih ⊢
    rw [mem_insertSorted, ih]; simp

theorem sorted_toSet : ∀ (l : List Nat), SSorted (toSet l)
  | [] => by simp [toSet]
  | x :: xs => by
    have ih := sorted_toSet xs
    simp only [toSet, List.foldr_cons] at ih ⊢
    exact sorted_insertSorted x _ ih

theorem mem_setDiff (a b : List Nat) (y : Nat) : y ∈ setDiff a b ↔ y ∈ a ∧ y ∉ b := by
  simp [setDiff, List.mem_filter]

theorem sorted_setDiff (a b : List Nat) (h : SSorted a) : SSorted (setDiff a b) :=
  List.Pairwise.sublist List.filter_sublist h

theorem sorted_ext (u v : List Nat) (hu : SSorted u) (hv : SSorted v) (h : ∀ x, x ∈ u ↔ x ∈ v) : u = v := by
  have hnu : u.Nodup := hu.imp (fun h => Nat.ne_of_lt h)
  have hnv : v.Nodup := hv.imp (fun h => Nat.ne_of_lt h)
  have hp := (List.perm_ext_iff_of_nodup hnu hnv).mpr h
  exact List.Perm.eq_of_pairwise (le := fun a b : Nat => a < b) (fun a b _ _ h1 h2 => by omega) hu hv hp

theorem toSet_congr (l l' : List Nat) (h : ∀ x, x ∈ l ↔ x ∈ l') : toSet l = toSet l' :=
  sorted_ext _ _ (sorted_toSet l) (sorted_toSet l') (fun x => by rw [mem_toSet, mem_toSet, h])

theorem toSet_of_sorted (u : List Nat) (h : SSorted u) : toSet u = u :=
  sorted_ext _ _ (sorted_toSet u) h (fun x => mem_toSet x u)

def Sub (u L : List Nat) : Prop := ∀ x ∈ u, x ∈ L

theorem compl_compl (L u : List Nat) (hL : SSorted L) (hu : SSorted u) (hs : Sub u L) :
    setDiff L (setDiff L u) = u := by
  apply sorted_ext _ _ (sorted_setDiff _ _ hL) hu
  intro x
  simp only [mem_setDiff, not_and, not_not]
  exact ⟨fun h => h.2 h.1, fun hx => ⟨hs x hx, fun _ => hx⟩⟩

theorem sub_compl (L u : List Nat) : Sub (setDiff L u) L := fun x hx => ((mem_setDiff L u x).mp hx).1

def canon (L u : List Nat) : List Nat := if u.contains (L.headD 0) then u else setDiff L u

theorem canon_compl (L u : List Nat) (hL : SSorted L) (hne : L ≠ []) (hu : SSorted u) (hs : Sub u L) :
    canon L (setDiff L u) = canon L u := by
  have hm : L.headD 0 ∈ L := by cases L with | nil => exact absurd rfl hne | cons a _ => simp
  simp only [canon, List.contains_iff_mem, mem_setDiff, hm, true_and]
  by_cases h : L.headD 0 ∈ u
  · simp only [h, not_true_eq_false, if_true, if_false, compl_compl L u hL hu hs]
  · simp only [h, not_false_eq_true, if_true, if_false]

theorem canon_cases (L u : List Nat) : canon L u = u ∨ canon L u = setDiff L u := by
  unfold canon; split <;> simp

theorem canon_eq_iff (L u v : List Nat) (hL : SSorted L) (hne : L ≠ []) (hu : SSorted u) (hsu : Sub u L)
    (hv : SSorted v) (hsv : Sub v L) :
    canon L u = canon L v ↔ (u = v ∨ u = setDiff L v) := by
  constructor
  · intro h
    rcases canon_cases L u with h1 | h1 <;> rcases canon_cases L v with h2 | h2 <;> rw [h1, h2] at h
    · exact Or.inl h
    · exact Or.inr h
    · exact Or.inr (by rw [← h, compl_compl L u hL hu hsu])
    · exact Or.inl (by rw [← compl_compl L u hL hu hsu, h, compl_compl L v hL hv hsv])
  · rintro (rfl | rfl)
    · rfl
    · exact canon_compl L v hL hne hv hsv

theorem canon_sorted (L u : List Nat) (hL : SSorted L) (hu : SSorted u) : SSorted (canon L u) := by
  rcases canon_cases L u with h | h <;> rw [h]
  · exact hu
  · exact sorted_setDiff _ _ hL

theorem canon_sub (L u : List Nat) (hs : Sub u L) : Sub (canon L u) L := by
  rcases canon_cases L u with h | h <;> rw [h]
  · exact hs
  · exact sub_compl L u

-- `inj`: no entry equals another or its complement (`canon_eq_iff`)
structure WFS (L : List Nat) (pa : List (List Nat)) : Prop where
  sortedL : SSorted L
  ne : L ≠ []
  elems : ∀ u ∈ pa, SSorted u ∧ Sub u L
  inj : (pa.map (canon L)).Nodup

/-- the set of splits, each given by its canonical side -/
def cs (L : List Nat) (pa : List (List Nat)) : Finset (List Nat) := (pa.map (canon L)).toFinset

theorem cs_card {L : List Nat} {pa : List (List Nat)} (h : WFS L pa) : (cs L pa).card = pa.length := by
  unfold cs
  rw [List.toFinset_card_of_nodup h.inj, List.length_map]

theorem mem_cs (L : List Nat) (pa : List (List Nat)) (a : List Nat) : a ∈ cs L pa ↔ ∃ u ∈ pa, canon L u = a := by
  simp [cs]

theorem count_via_cs {L : List Nat} {pa : List (List Nat)} (h : WFS L pa) (Q : List Nat → Bool) (Q' : List Nat → Prop)
    [DecidablePred Q'] (hQ : ∀ u ∈ pa, Q u = true ↔ Q' (canon L u)) :
    (pa.filter Q).length = ((cs L pa).filter Q').card := by
  have hnd : ((pa.filter Q).map (canon L)).Nodup := h.inj.sublist (List.filter_sublist.map _)
  rw [← List.length_map (f := canon L), ← List.toFinset_card_of_nodup hnd]
  congr 1
  ext a
  simp only [List.mem_toFinset, List.mem_map, List.mem_filter, Finset.mem_filter, mem_cs]
  constructor
  · rintro ⟨u, ⟨hu, hq⟩, rfl⟩; exact ⟨⟨u, hu, rfl⟩, (hQ u hu).mp hq⟩
  · rintro ⟨⟨u, hu, rfl⟩, hq⟩; exact ⟨u, ⟨hu, (hQ u hu).mpr hq⟩, rfl⟩

theorem shared_iff {L u : List Nat} {pb : List (List Nat)} (hL : SSorted L) (hne : L ≠ []) (su : SSorted u)
    (subu : Sub u L) (hB : ∀ v ∈ pb, SSorted v ∧ Sub v L) :
    (pb.contains u || pb.contains (setDiff L u)) = true ↔ canon L u ∈ cs L pb := by
  simp only [Bool.or_eq_true, List.contains_iff_mem, mem_cs]
  rw [exists_congr fun v => and_congr_right fun hv =>
    canon_eq_iff L v u hL hne (hB v hv).1 (hB v hv).2 su subu]
  simp only [and_or_left, exists_or, exists_eq_right]

theorem shared_eq_inter {L : List Nat} {pa pb : List (List Nat)} (hA : WFS L pa) (hB : WFS L pb) :
    sharedCount pa L pb = (cs L pa ∩ cs L pb).card := by
  unfold sharedCount
  rw [count_via_cs hA _ (fun a => a ∈ cs L pb)
      (fun u hu => shared_iff hA.sortedL hA.ne (hA.elems u hu).1 (hA.elems u hu).2 hB.elems),
    Finset.filter_mem_eq_inter]

theorem rf_sets (A B : Finset (List Nat)) :
    ((A.card + B.card : Nat) : Int) - 2 * ((A ∩ B).card : Nat) = ((symmDiff A B).card : Int) := by
  have h := Finset.card_union_of_disjoint (disjoint_symmDiff_inf A B)
  rw [← Finset.sup_eq_union, symmDiff_sup_inf, Finset.sup_eq_union, Finset.inf_eq_inter] at h
  have := Finset.card_union_add_card_inter A B
  omega

/-- **rf is the normalised symmetric difference** of the two sets of splits -/
theorem C15_rf_symmDiff {L : List Nat} {pa pb : List (List Nat)} (hA : WFS L pa) (hB : WFS L pb) :
    rfNum pa L pb = ((symmDiff (cs L pa) (cs L pb)).card : Int) ∧
    pa.length + pb.length = (cs L pa).card + (cs L pb).card := by
  refine ⟨?_, by rw [cs_card hA, cs_card hB]⟩
  rw [rfNum, shared_eq_inter hA hB, ← cs_card hA, ← cs_card hB, rf_sets]

/-- **rf is symmetric** -/
theorem C15_rf_symm {L : List Nat} {pa pb : List (List Nat)} (hA : WFS L pa) (hB : WFS L pb) :
    rfNum pa L pb = rfNum pb L pa := by
  rw [(C15_rf_symmDiff hA hB).1, (C15_rf_symmDiff hB hA).1, symmDiff_comm]

/-- **rf is never negative** -/
theorem C15_rf_nonneg {L : List Nat} {pa pb : List (List Nat)} (hA : WFS L pa) (hB : WFS L pb) :
    0 ≤ rfNum pa L pb := by
  rw [(C15_rf_symmDiff hA hB).1]; exact Int.natCast_nonneg _

theorem compat_compl_left (L u ep : List Nat) (hL : SSorted L) (hu : SSorted u) (hs : Sub u L) :
    compat L L (setDiff L u) ep = compat L L u ep := by
  unfold compat
  rw [compl_compl L u hL hu hs, Bool.or_comm (subsetB (setDiff L u) ep),
    Bool.or_comm (subsetB (setDiff L u) (setDiff L ep))]

theorem compat_compl_right (L u ep : List Nat) (hL : SSorted L) (he : SSorted ep) (hs : Sub ep L) :
    compat L L u (setDiff L ep) = compat L L u ep := by
  unfold compat
  rw [compl_compl L ep hL he hs, Bool.or_comm]

/-- compatibility is a property of the two splits, not of the sides that stand for them -/
theorem compat_canon (L u ep : List Nat) (hL : SSorted L) (hu : SSorted u) (hsu : Sub u L) (he : SSorted ep)
    (hse : Sub ep L) : compat L L (canon L u) (canon L ep) = compat L L u ep := by
  have hl : compat L L (canon L u) (canon L ep) = compat L L u (canon L ep) := by
    rcases canon_cases L u with h | h <;> rw [h]
    exact compat_compl_left L u _ hL hu hsu
  rw [hl]
  rcases canon_cases L ep with h | h <;> rw [h]
  exact compat_compl_right L u ep hL he hse

def CompatAll (L : List Nat) (B : Finset (List Nat)) (a : List Nat) : Prop :=
  B.Nonempty ∧ ∀ b ∈ B, compat L L a b = true

instance (L : List Nat) (B : Finset (List Nat)) : DecidablePred (CompatAll L B) := fun a => by
  unfold CompatAll; exact inferInstance

theorem forall_mem_cs (L : List Nat) (pb : List (List Nat)) (P : List Nat → Prop) :
    (∀ b ∈ cs L pb, P b) ↔ ∀ v ∈ pb, P (canon L v) := by
  simp only [cs, List.mem_toFinset, List.forall_mem_map]

theorem cs_nonempty (L : List Nat) (pb : List (List Nat)) : (cs L pb).Nonempty ↔ pb ≠ [] := by
  simp [cs, List.toFinset_nonempty_iff]

theorem mod_eq_sets {L : List Nat} {pa pb : List (List Nat)} (hA : WFS L pa) (hB : WFS L pb) :
    modCount pa L pb L = ((cs L pa).filter (CompatAll L (cs L pb))).card := by
  unfold modCount
  apply count_via_cs hA
  intro u hu
  obtain ⟨su, subu⟩ := hA.elems u hu
  simp only [Bool.and_eq_true, Bool.not_eq_true', List.isEmpty_eq_false_iff, List.all_eq_true, CompatAll,
    cs_nonempty, forall_mem_cs]
  refine and_congr_right fun _ => forall₂_congr fun v hv => ?_
  rw [compat_canon L u v hA.sortedL su subu (hB.elems v hv).1 (hB.elems v hv).2]

/-- both distances as functions of the two sets of splits -/
def grfSets (L : List Nat) (A B : Finset (List Nat)) : Option ((Nat × Nat) × (Int × Nat)) :=
  if A.card = 0 then none else
  some ((A.card - (A.filter (CompatAll L B)).card, A.card),
        (((A.card + B.card : Nat) : Int) - 2 * ((A ∩ B).card : Nat), A.card + B.card))

theorem grfSets_rf {L : List Nat} {A B : Finset (List Nat)} {r : (Nat × Nat) × (Int × Nat)}
    (h : grfSets L A B = some r) : r.2 = (((symmDiff A B).card : Int), A.card + B.card) := by
  unfold grfSets at h
  split at h
  · cases h
  · cases h
    exact Prod.ext (rf_sets A B) rfl

theorem grfSets_self (L : List Nat) (A : Finset (List Nat)) (h : ∀ a ∈ A, ∀ b ∈ A, compat L L a b = true) :
    grfSets L A A = if A.card = 0 then none else some ((0, A.card), ((0 : Int), A.card + A.card)) := by
  have hall : A.filter (CompatAll L A) = A := Finset.filter_true_of_mem fun a ha => ⟨⟨a, ha⟩, h a ha⟩
  have hz : ((A.card + A.card : Nat) : Int) - 2 * (A.card : Nat) = 0 := by omega
  rw [grfSets, hall, Finset.inter_self, Nat.sub_self, hz]

/-- **both distances depend on the two trees only through their sets of splits** -/
theorem grfParts_eq_sets {L : List Nat} {pa pb : List (List Nat)} (hA : WFS L pa) (hB : WFS L pb) :
    grfParts pa L pb L = grfSets L (cs L pa) (cs L pb) := by
  rw [grfParts_eq, grfSets, rfNum, shared_eq_inter hA hB, mod_eq_sets hA hB, cs_card hA, cs_card hB]

/-- the test of the source for a split worth keeping -/
def NTb (L s : List Nat) : Bool :=
  !((setDiff L s).length == 1 || s.length == 1) && (decide (0 < s.length) && decide (0 < (setDiff L s).length))

/-- the body of the loop over `partition_list` in `get_bipartition`, its nested tests merged into one -/
def bipStep (L : List Nat) (acc : List (List Nat)) (x : List Nat) : List (List Nat) :=
  if NTb L (toSet x) && !(acc.contains (toSet x) || acc.contains (setDiff L (toSet x))) then acc ++ [toSet x]
  else acc

theorem bipartition_eq (parts : List (List Nat)) :
    bipartition parts = (parts.foldl (bipStep (toSet (parts.getLast?.getD []))) [],
      toSet (parts.getLast?.getD [])) := by
  unfold bipartition
  simp only [Prod.mk.injEq, and_true]
  generalize toSet (parts.getLast?.getD []) = L
  congr 1
  funext acc x
  unfold bipStep NTb
  cases ((setDiff L (toSet x)).length == 1 || (toSet x).length == 1) <;>
    simp only [Bool.not_true, Bool.not_false, Bool.false_and, Bool.true_and, Bool.not_or, Bool.and_assoc,
      Bool.false_eq_true, if_false, if_true]

/-- the canonical non-trivial splits of a list of leaf lists -/
def csOf (L : List Nat) (parts : List (List Nat)) : Finset (List Nat) :=
  (((parts.map toSet).filter (NTb L)).map (canon L)).toFinset

theorem mem_csOf (L : List Nat) (parts : List (List Nat)) (a : List Nat) :
    a ∈ csOf L parts ↔ ∃ x ∈ parts, NTb L (toSet x) = true ∧ canon L (toSet x) = a := by
  simp only [csOf, List.mem_toFinset, List.mem_map, List.mem_filter, and_assoc, exists_exists_and_eq_and]

theorem cs_append (L : List Nat) (p q : List (List Nat)) : cs L (p ++ q) = cs L p ∪ cs L q := by
  simp only [cs, List.map_append, List.toFinset_append]

theorem csOf_cons (L x : List Nat) (parts : List (List Nat)) :
    csOf L (x :: parts) = (if NTb L (toSet x) = true then {canon L (toSet x)} else ∅) ∪ csOf L parts := by
  unfold csOf
  rw [List.map_cons, List.filter_cons]
  split
  · rw [List.map_cons, List.toFinset_cons, Finset.insert_eq]
  · rw [Finset.empty_union]

theorem wfs_snoc {L : List Nat} {acc : List (List Nat)} (h : WFS L acc) (s : List Nat) (hs : SSorted s) (hsub : Sub s L)
    (hnew : canon L s ∉ cs L acc) : WFS L (acc ++ [s]) := by
  refine ⟨h.sortedL, h.ne, ?_, ?_⟩
  · exact List.forall_mem_append.mpr ⟨h.elems, List.forall_mem_singleton.mpr ⟨hs, hsub⟩⟩
  · rw [List.map_append, List.nodup_append_comm]
    exact List.nodup_cons.mpr ⟨mt List.mem_toFinset.mpr hnew, h.inj⟩

theorem bipStep_inv {L : List Nat} {acc : List (List Nat)} (h : WFS L acc) (x : List Nat) (hx : Sub (toSet x) L) :
    WFS L (bipStep L acc x) ∧
      cs L (bipStep L acc x) = cs L acc ∪ (if NTb L (toSet x) = true then {canon L (toSet x)} else ∅) := by
  -- the two look-ups of the source say whether the split of `x` is among the splits of `acc`
  have hin := shared_iff h.sortedL h.ne (sorted_toSet x) hx h.elems
  unfold bipStep
  simp only [Bool.and_eq_true, Bool.not_eq_true', Bool.eq_false_iff, ne_eq, hin]
  split
  next hc =>
    rw [if_pos hc.1, cs_append]
    exact ⟨wfs_snoc h _ (sorted_toSet x) hx hc.2, by simp [cs]⟩
  next hc =>
    refine ⟨h, (Finset.union_eq_left.mpr ?_).symm⟩
    split
    next hnt => exact Finset.singleton_subset_iff.mpr (not_not.mp fun hn => hc ⟨hnt, hn⟩)
    next => exact Finset.empty_subset _

theorem bip_fold {L : List Nat} : ∀ (parts acc : List (List Nat)), (∀ x ∈ parts, Sub (toSet x) L) → WFS L acc →
    WFS L (parts.foldl (bipStep L) acc) ∧ cs L (parts.foldl (bipStep L) acc) = cs L acc ∪ csOf L parts
  | [], acc, _, h => ⟨h, by simp [csOf]⟩
  | x :: rest, acc, hsub, h => by
    obtain ⟨h1, h2⟩ := bipStep_inv h x (hsub x List.mem_cons_self)
    obtain ⟨h3, h4⟩ := bip_fold rest _ (fun y hy => hsub y (List.mem_cons_of_mem _ hy)) h1
    exact ⟨h3, by rw [List.foldl_cons, h4, h2, csOf_cons, Finset.union_assoc]⟩

/-- **what `get_bipartition` returns is well formed, and its set of splits is the set of canonical
non-trivial splits of the leaf lists it was given** -/
theorem bipartition_wfs (parts : List (List Nat)) (hne : toSet (parts.getLast?.getD []) ≠ [])
    (hsub : ∀ x ∈ parts, Sub (toSet x) (toSet (parts.getLast?.getD []))) :
    WFS (bipartition parts).2 (bipartition parts).1 ∧
    cs (bipartition parts).2 (bipartition parts).1 = csOf (bipartition parts).2 parts := by
  rw [bipartition_eq]
  simpa [cs] using bip_fold parts [] hsub ⟨sorted_toSet _, hne, (by intro u hu; cases hu), List.nodup_nil⟩

theorem leavesL_eq (ts : List Tree) : leavesL ts = ts.flatMap leaves := by
  induction ts with
  | nil => rfl
  | cons t ts ih => simp [leavesL, ih]

theorem cladesL_eq (ts : List Tree) : cladesL ts = ts.flatMap clades := by
  induction ts with
  | nil => rfl
  | cons t ts ih => simp [cladesL, ih]

mutual
theorem clade_sub : ∀ (t : Tree), ∀ c ∈ clades t, ∀ y ∈ c, y ∈ leaves t
  | .leaf _, c, hc, _, _ => by simp [clades] at hc
  | .node ts, c, hc, y, hy => by
    simp only [clades, List.mem_append, List.mem_singleton] at hc
    simp only [leaves]
    rcases hc with hc | rfl
    · exact cladeL_sub ts c hc y hy
    · exact hy
theorem cladeL_sub : ∀ (ts : List Tree), ∀ c ∈ cladesL ts, ∀ y ∈ c, y ∈ leavesL ts
  | [], c, hc, _, _ => by simp [cladesL] at hc
  | t :: ts, c, hc, y, hy => by
    simp only [cladesL, List.mem_append] at hc
    simp only [leavesL, List.mem_append]
    rcases hc with hc | hc
    · exact Or.inl (clade_sub t c hc y hy)
    · exact Or.inr (cladeL_sub ts c hc y hy)
end

theorem leaves_ne_nil : ∀ (t : Tree), Proper t = true → leaves t ≠ []
  | .leaf n, _ => by simp [leaves]
  | .node [], h => by simp [Proper] at h
  | .node (c :: r), h => by
    simp only [Proper, ProperL, Bool.and_eq_true] at h
    simp only [leaves, leavesL]
    exact fun e => leaves_ne_nil c h.2.1 (List.append_eq_nil_iff.mp e).1

mutual
/-- the same tree with the children of any nodes listed in another order -/
inductive Reord : Tree → Tree → Prop
  | leaf (n : Nat) : Reord (.leaf n) (.leaf n)
  | node {cs ds es : List Tree} : ReordL cs ds → ds.Perm es → Reord (.node cs) (.node es)
inductive ReordL : List Tree → List Tree → Prop
  | nil : ReordL [] []
  | cons {t t' : Tree} {ts ts' : List Tree} : Reord t t' → ReordL ts ts' → ReordL (t :: ts) (t' :: ts')
end

/-- the sets of leaves below the internal nodes -/
def cladeSets (t : Tree) : List (List Nat) := (clades t).map toSet

mutual
theorem reord_inv : ∀ (t t' : Tree), Reord t t' →
    (leaves t).Perm (leaves t') ∧ ∀ s, s ∈ (clades t).map toSet ↔ s ∈ (clades t').map toSet
  | _, _, .leaf n => ⟨List.Perm.refl _, fun _ => Iff.rfl⟩
  | _, _, @Reord.node ts ds es h hp => by
    obtain ⟨h1, h2⟩ := reordL_inv ts ds h
    have p1 : (leavesL ds).Perm (leavesL es) := by
      rw [leavesL_eq, leavesL_eq]; exact hp.flatMap_right _
    have p2 : (cladesL ds).Perm (cladesL es) := by
      rw [cladesL_eq, cladesL_eq]; exact hp.flatMap_right _
    refine ⟨h1.trans p1, ?_⟩
    intro s
    simp only [clades, List.map_append, List.map_cons, List.map_nil, List.mem_append, List.mem_singleton]
    have hl : toSet (leavesL ts) = toSet (leavesL es) := toSet_congr _ _ (fun x => (h1.trans p1).mem_iff)
    rw [h2 s, hl, (p2.map toSet).mem_iff]
theorem reordL_inv : ∀ (ts ts' : List Tree), ReordL ts ts' →
    (leavesL ts).Perm (leavesL ts') ∧ ∀ s, s ∈ (cladesL ts).map toSet ↔ s ∈ (cladesL ts').map toSet
  | _, _, .nil => ⟨List.Perm.refl _, fun _ => Iff.rfl⟩
  | _, _, @ReordL.cons t t' ts ts' h hs => by
    obtain ⟨a1, a2⟩ := reord_inv t t' h
    obtain ⟨b1, b2⟩ := reordL_inv ts ts' hs
    refine ⟨by simp only [leavesL]; exact a1.append b1, ?_⟩
    intro s
    simp only [cladesL, List.map_append, List.mem_append, a2 s, b2 s]
end

/-- the taxa and the set of canonical splits of a tree -/
def taxa (t : Tree) : List Nat := toSet (leaves t)
def splits (t : Tree) : Finset (List Nat) := csOf (taxa t) (clades t)

theorem csOf_congr (L : List Nat) (p p' : List (List Nat)) (h : ∀ s, s ∈ p.map toSet ↔ s ∈ p'.map toSet) :
    csOf L p = csOf L p' := by
  ext a
  simp only [csOf, List.mem_toFinset, List.mem_map, List.mem_filter, h]

/-- **the set of splits does not depend on the order in which children are written** -/
theorem C15_splits_reorder (t t' : Tree) (h : Reord t t') : taxa t = taxa t' ∧ splits t = splits t' := by
  obtain ⟨h1, h2⟩ := reord_inv t t' h
  have hL : taxa t = taxa t' := toSet_congr _ _ (fun x => h1.mem_iff)
  exact ⟨hL, by unfold splits; rw [hL]; exact csOf_congr _ _ _ h2⟩

theorem clade_sub_taxa (t : Tree) (c : List Nat) (hc : c ∈ clades t) : Sub (toSet c) (taxa t) :=
  fun y hy => (mem_toSet y _).mpr (clade_sub t c hc y ((mem_toSet y c).mp hy))

theorem bipartition_clades (es : List Tree) (he : Proper (.node es) = true) :
    (bipartition (clades (.node es))).2 = taxa (.node es) ∧
    WFS (taxa (.node es)) (bipartition (clades (.node es))).1 ∧
    cs (taxa (.node es)) (bipartition (clades (.node es))).1 = splits (.node es) := by
  have hlast : (clades (.node es)).getLast?.getD [] = leaves (.node es) := by simp [clades, leaves]
  have h2 : (bipartition (clades (.node es))).2 = taxa (.node es) := by rw [bipartition_eq, hlast]; rfl
  have hne : taxa (.node es) ≠ [] := by
    obtain ⟨y, hy⟩ := List.exists_mem_of_ne_nil _ (leaves_ne_nil (.node es) he)
    exact List.ne_nil_of_mem ((mem_toSet y _).mpr hy)
  have := bipartition_wfs (clades (.node es)) (by rw [hlast]; exact hne)
    (by rw [hlast]; exact clade_sub_taxa (.node es))
  rw [h2] at this
  exact ⟨h2, this⟩

/-- what the code computes for two properly written trees on the same taxa, in terms of sets -/
theorem treeDist_eq_sets (xs ys : List Tree) (hp : Proper (.node xs) = true) (hq : Proper (.node ys) = true)
    (hL : taxa (.node xs) = taxa (.node ys)) :
    treeDist (.node xs) (.node ys) =
      grfSets (taxa (.node xs)) (splits (.node xs)) (splits (.node ys)) := by
  obtain ⟨a2, a1, a3⟩ := bipartition_clades xs hp
  obtain ⟨b2, b1, b3⟩ := bipartition_clades ys hq
  rw [← hL] at b1 b2 b3
  simp only [treeDist, C15_bipart_correct xs hp, C15_bipart_correct ys hq]
  rw [a2, b2, grfParts_eq_sets a1 b1, a3, b3]

/-- **C15, order invariance**: listing the children of any nodes of one tree in another order changes
neither distance, in either argument position. -/
theorem C15_reorder_invariant (xs xs' ys : List Tree) (hp : Proper (.node xs) = true) (hp' : Proper (.node xs') = true)
    (hq : Proper (.node ys) = true) (hr : Reord (.node xs) (.node xs')) (hL : taxa (.node xs) = taxa (.node ys)) :
    treeDist (.node xs) (.node ys) = treeDist (.node xs') (.node ys) ∧
    treeDist (.node ys) (.node xs) = treeDist (.node ys) (.node xs') := by
  obtain ⟨h1, h2⟩ := C15_splits_reorder _ _ hr
  rw [treeDist_eq_sets xs ys hp hq hL, treeDist_eq_sets xs' ys hp' hq (h1 ▸ hL),
    treeDist_eq_sets ys xs hq hp hL.symm, treeDist_eq_sets ys xs' hq hp' (h1 ▸ hL).symm, h1, h2]
  exact ⟨rfl, rfl⟩

/-- **C15, rf is symmetric and is the normalised symmetric difference of the two sets of splits**
(whenever the code returns a value in both directions). -/
theorem C15_rf_trees (xs ys : List Tree) (hp : Proper (.node xs) = true) (hq : Proper (.node ys) = true)
    (hL : taxa (.node xs) = taxa (.node ys)) (r r' : (Nat × Nat) × (Int × Nat))
    (h : treeDist (.node xs) (.node ys) = some r) (h' : treeDist (.node ys) (.node xs) = some r') :
    r.2 = r'.2 ∧
    r.2.1 = ((symmDiff (splits (.node xs)) (splits (.node ys))).card : Int) ∧
    r.2.2 = (splits (.node xs)).card + (splits (.node ys)).card ∧ 0 ≤ r.2.1 := by
  rw [treeDist_eq_sets xs ys hp hq hL] at h
  rw [treeDist_eq_sets ys xs hq hp hL.symm] at h'
  rw [grfSets_rf h, grfSets_rf h', symmDiff_comm (splits (.node ys)), Nat.add_comm (splits (.node ys)).card]
  exact ⟨rfl, rfl, rfl, Int.natCast_nonneg _⟩

mutual
theorem laminar : ∀ (t : Tree), (leaves t).Nodup → ∀ c1 ∈ clades t, ∀ c2 ∈ clades t,
    (∀ y ∈ c1, y ∈ c2) ∨ (∀ y ∈ c2, y ∈ c1) ∨ (∀ y ∈ c1, y ∉ c2)
  | .leaf _, _, c1, h1, _, _ => by simp [clades] at h1
  | .node es, hnd, c1, h1, c2, h2 => by
    simp only [clades, List.mem_append, List.mem_singleton] at h1 h2
    simp only [leaves] at hnd
    rcases h2 with h2 | rfl
    · rcases h1 with h1 | rfl
      · exact laminarL es hnd c1 h1 c2 h2
      · exact Or.inr (Or.inl (fun y hy => cladeL_sub es c2 h2 y hy))
    · rcases h1 with h1 | rfl
      · exact Or.inl (fun y hy => cladeL_sub es c1 h1 y hy)
      · exact Or.inl (fun y hy => hy)
theorem laminarL : ∀ (ts : List Tree), (leavesL ts).Nodup → ∀ c1 ∈ cladesL ts, ∀ c2 ∈ cladesL ts,
    (∀ y ∈ c1, y ∈ c2) ∨ (∀ y ∈ c2, y ∈ c1) ∨ (∀ y ∈ c1, y ∉ c2)
  | [], _, c1, h1, _, _ => by simp [cladesL] at h1
  | t :: ts, hnd, c1, h1, c2, h2 => by
    simp only [cladesL, List.mem_append] at h1 h2
    simp only [leavesL] at hnd
    obtain ⟨n1, n2, n3⟩ := List.nodup_append.mp hnd
    rcases h1 with h1 | h1 <;> rcases h2 with h2 | h2
    · exact laminar t n1 c1 h1 c2 h2
    · refine Or.inr (Or.inr (fun y hy hy2 => ?_))
      exact n3 y (clade_sub t c1 h1 y hy) y (cladeL_sub ts c2 h2 y hy2) rfl
    · refine Or.inr (Or.inr (fun y hy hy2 => ?_))
      exact n3 y (clade_sub t c2 h2 y hy2) y (cladeL_sub ts c1 h1 y hy) rfl
    · exact laminarL ts n2 c1 h1 c2 h2
end

theorem subsetB_iff (a b : List Nat) : subsetB a b = true ↔ ∀ y ∈ a, y ∈ b := by
  simp [subsetB, List.all_eq_true]

/-- the splits of one tree are pairwise compatible, because its clades are nested or disjoint -/
theorem splits_compat (t : Tree) (hnd : (leaves t).Nodup) :
    ∀ a ∈ splits t, ∀ b ∈ splits t, compat (taxa t) (taxa t) a b = true := by
  intro a ha b hb
  obtain ⟨c1, hc1, _, rfl⟩ := (mem_csOf _ _ a).mp ha
  obtain ⟨c2, hc2, _, rfl⟩ := (mem_csOf _ _ b).mp hb
  rw [compat_canon (taxa t) _ _ (sorted_toSet _) (sorted_toSet c1) (clade_sub_taxa t c1 hc1) (sorted_toSet c2)
    (clade_sub_taxa t c2 hc2)]
  unfold compat
  simp only [Bool.or_eq_true, subsetB_iff, mem_setDiff, mem_toSet]
  rcases laminar t hnd c1 hc1 c2 hc2 with h | h | h
  · exact Or.inl (Or.inl h)
  · exact Or.inr (Or.inr (fun y hy => ⟨hy.1, fun h2 => hy.2 (h y h2)⟩))
  · exact Or.inr (Or.inl (fun y hy => ⟨clade_sub_taxa t c1 hc1 y ((mem_toSet y c1).mpr hy), h y hy⟩))

/-- **C15, a tree and itself**: both distances are 0 (or the code raises because the tree has no
non-trivial split at all) – for trees whose leaves are distinct. -/
theorem C15_self_zero (xs : List Tree) (hp : Proper (.node xs) = true) (hnd : (leaves (.node xs)).Nodup) :
    treeDist (.node xs) (.node xs) = none ∨
    ∃ n, treeDist (.node xs) (.node xs) = some ((0, n), ((0 : Int), n + n)) := by
  rw [treeDist_eq_sets xs xs hp hp rfl, grfSets_self _ _ (splits_compat _ hnd)]
  split
  · exact Or.inl rfl
  · exact Or.inr ⟨_, rfl⟩

/-- not vacuous: two writings of `((0,1),(2,3))` and a different tree -/
example : treeDist (.node [.node [.leaf 0, .leaf 1], .node [.leaf 2, .leaf 3]])
    (.node [.node [.leaf 3, .leaf 2], .node [.leaf 1, .leaf 0]]) = some ((0, 1), (0, 2)) := by decide +kernel
example : treeDist (.node [.node [.leaf 0, .leaf 1], .node [.leaf 2, .leaf 3]])
    (.node [.node [.leaf 0, .leaf 2], .node [.leaf 1, .leaf 3]]) = some ((1, 1), (2, 2)) := by decide +kernel

end Verif.TreeDist
