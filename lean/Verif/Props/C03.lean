import Verif.Lemmas.KernelMono
import Verif.Lemmas.Run
import Verif.Lemmas.Scan
import Verif.Props.C02
/-!
# C03 — with linear gap costs alignment is exact

Optimality theorems.  `score` is C02's independent re-scorer applied to an arbitrary
alignment (= list of moves); *all possible alignments of the pair* are the move lists that
consume exactly `N` symbols of B and `M` symbols of A.  Only a total order and monotone
`+`/`-` are used (class `ScoreLaws`).
-/
namespace Verif.Align
open ScoreOps ScoreLaws
variable {S : Type} [ScoreOps S] [Inhabited S] [LinearOrder S] [ScoreLaws S]

/-- score of an arbitrary global / overlap alignment under the scheme of `cfg`;
`score cfg inp (movesOf cols) = rescoreCols cfg inp cols` by `rfl` -/
def score (cfg : Cfg) (inp : Input S) (ms : List Mv) : S :=
  (rescore (kernelOf cfg inp) ⟨0, 0, (kernelOf cfg inp).corner⟩ ms).cur.1

/-- **C03, global and semi-global (overlap) optimality.**  With `scale = 1` the returned
similarity is the score of the returned alignment (which is an alignment of the whole
pair) and no alignment of the pair scores higher. -/
theorem C03_global_opt (cfg : Cfg) (inp : Input S) (hm : cfg.mode = .global ∨ cfg.mode = .overlap)
    (hs : ∀ g : S, mul g inp.scale = g) (ha : inp.a ≠ []) (hb : inp.b ≠ []) :
    ∃ cols sim, run cfg inp = .glob cols sim ∧
      IsPath inp.N inp.M (movesOf cols) ∧ sim = score cfg inp (movesOf cols) ∧
      ∀ ms, IsPath inp.N inp.M ms → score cfg inp ms ≤ sim := by
  have hl : cfg.mode ≠ .local := by rcases hm with h | h <;> simp [h]
  have hd : cfg.mode ≠ .dialign := by rcases hm with h | h <;> simp [h]
  obtain ⟨hrow, hcol⟩ := kernel_border_moves cfg inp hl
  obtain ⟨hub, cols, h1, hp, h2⟩ := kernel_opt (· ≤ ·) le_refl (fun _ _ _ => le_trans) (kernelOf cfg inp)
    (kernel_chooseOkG cfg inp hl) (kernel_monoK cfg inp hs) hrow hcol inp.a inp.b _ (moveTab_aff cfg inp hd)
  have h1' : tbGlobal (moveTab cfg inp) inp.a inp.b inp.N inp.M [] = some cols := h1
  refine ⟨cols, _, by rw [run_glob cfg inp hl ha hb, h1'], hp, ?_, ?_⟩
  · rw [score, h2, fillOf_aff cfg inp hd]; rfl
  · rw [fillOf_aff cfg inp hd]; exact hub

theorem T_local_nonneg (cfg : Cfg) (inp : Input S) (hm : cfg.mode = .local) (M i j : Nat) (hj : j ≤ M) :
    (zero : S) ≤ (T (kernelOf cfg inp).toFill M i j).1 := by
  match i, j with
  | 0, j => rw [T_local_border cfg inp hm M 0 j hj (.inl rfl)]
  | i+1, 0 => rw [T_local_border cfg inp hm M (i+1) 0 hj (.inr rfl)]
  | i+1, j+1 =>
    rw [T_inner_aff _ _ _ _ (by omega)]
    simp only [kernelOf, hm, if_true]
    exact (chooseLocal_max cfg _ _ _).2.2.2

theorem run_local_max (cfg : Cfg) (inp : Input S) (hm : cfg.mode = .local)
    (i0 j0 k l : Nat) (cols : List (Col Nat)) (sim : S) (hr : run cfg inp = .loc i0 j0 k l cols sim) :
    k ≤ inp.N ∧ l ≤ inp.M ∧ sim = (T (kernelOf cfg inp).toFill inp.M k l).1 ∧
      ∀ i j, i ≤ inp.N → j ≤ inp.M → (T (kernelOf cfg inp).toFill inp.M i j).1 ≤ sim := by
  obtain ⟨⟨s, hbs⟩, hk0, hk, hl, -, rfl⟩ := run_loc cfg inp hm hr
  obtain ⟨a1, a2, a3⟩ := bestScan_table cfg _ _ _ s k l hbs
  rw [fillOf_aff cfg inp (by simp [hm])] at a2 a3 ⊢
  refine ⟨hk, hl, rfl, fun i j hi hj => ?_⟩
  rw [← a3 hk0]
  match i, j with
  | 0, j => rw [T_local_border cfg inp hm _ _ _ hj (.inl rfl)]; exact a1
  | i+1, 0 => rw [T_local_border cfg inp hm _ _ _ hj (.inr rfl)]; exact a1
  | i+1, j+1 => exact a2 i j hi hj

/-- **C03, local (best segment pair) optimality.**  With `scale = 1`, whenever the local
kernel returns, its similarity is the score of the returned aligned part and no alignment
of any pair of segments `B[i0'..i)`, `A[j0'..j)` scores higher. -/
theorem C03_local_opt (cfg : Cfg) (inp : Input S) (hm : cfg.mode = .local)
    (hs : ∀ g : S, mul g inp.scale = g)
    (i0 j0 k l : Nat) (cols : List (Col Nat)) (sim : S)
    (hr : run cfg inp = .loc i0 j0 k l cols sim) :
    sim = rescoreLocal cfg inp i0 j0 cols ∧
    ∀ (i0' j0' : Nat) (ms : List Mv),
      i0' + (ms.filter (· ≠ .left)).length ≤ inp.N → j0' + (ms.filter (· ≠ .up)).length ≤ inp.M →
      (rescore (kernelOf cfg inp) ⟨i0', j0', (zero, 0)⟩ ms).cur.1 ≤ sim := by
  refine ⟨C02_score_local cfg inp hm i0 j0 k l cols sim hr, fun i0' j0' ms hi hj => ?_⟩
  obtain ⟨-, -, -, hall⟩ := run_local_max cfg inp hm i0 j0 k l cols sim hr
  exact le_trans
    (path_r (· ≤ ·) (fun _ _ _ => le_trans) _ (kernel_monoK cfg inp hs) inp.M ms ⟨i0', j0', (zero, 0)⟩ hj
      (T_local_nonneg cfg inp hm _ _ _ (by simp only []; omega)))
    (hall _ _ hi hj)

end Verif.Align
