import Mathlib.Logic.Relation
import Verif.Lemmas.ScoreLaws
import Verif.Props.C05
/-!
# C05 — order-dependent clauses

Over a totally ordered carrier (`ScoreLaws`, instance for `Int`; for finite IEEE doubles the
comparison laws are facts about `<`/`<=`): stop condition over **all** pairs, single linkage =
connected components of the `≤ t` graph, complete linkage diameter.
Proved for the ordered-pair scan of the source (`i != j`) and both pick rules.
-/
namespace Verif.Cluster
open Verif.Align ScoreOps ScoreLaws
variable {S : Type} [ScoreOps S] [LinearOrder S] [ScoreLaws S]

theorem listMin_spec (l : List S) (hl : l ≠ []) : listMin l ∈ l ∧ ∀ v ∈ l, listMin l ≤ v := by
  cases l with
  | nil => exact absurd rfl hl
  | cons x xs =>
    refine ⟨foldl_pick_mem _ xs x,
      foldl_pick_le (fun y acc => lt y acc) (· ≤ ·) le_refl (fun _ _ _ => le_trans) ?_ ?_ xs x⟩
    · exact fun y acc h => le_of_lt ((lt_iff y acc).mp h)
    · exact fun y acc h => not_lt.mp (mt (lt_iff y acc).mpr h)

theorem listMax_spec (l : List S) (hl : l ≠ []) : listMax l ∈ l ∧ ∀ v ∈ l, v ≤ listMax l := by
  cases l with
  | nil => exact absurd rfl hl
  | cons x xs =>
    refine ⟨foldl_pick_mem _ xs x,
      foldl_pick_le (fun y acc => lt acc y) (· ≥ ·) le_refl (fun _ _ _ => ge_trans) ?_ ?_ xs x⟩
    · exact fun y acc h => le_of_lt ((lt_iff acc y).mp h)
    · exact fun y acc h => not_lt.mp (mt (lt_iff acc y).mpr h)

theorem argMin_le (lastMin : Bool) (l : List ((Nat × Nat) × S)) (x : (Nat × Nat) × S)
    (h : argMin lastMin l = some x) : ∀ y ∈ l, x.2 ≤ y.2 := by
  cases l with
  | nil => cases h
  | cons z zs =>
    cases h
    exact foldl_pick_le (fun y acc => if lastMin then le y.2 acc.2 else lt y.2 acc.2) (fun a b => a.2 ≤ b.2)
      (fun _ => le_refl _) (fun _ _ _ => le_trans)
      (fun y acc => (test_sound lastMin y.2 acc.2 _ (.inr rfl)).1)
      (fun y acc => (test_sound lastMin y.2 acc.2 _ (.inr rfl)).2) zs z

theorem next_le {cfg : Cfg} {M : Nat → Nat → S} {cs : St} {m : S} {cs' : St}
    (h : next cfg M cs = some (m, cs')) : ∀ y ∈ pairScores cfg M cs, m ≤ y.2 := by
  obtain ⟨p, q, heq, _⟩ := next_eq_some h
  exact argMin_le _ _ _ heq

/-- **C05, stop condition**: in the returned state no two clusters have linkage `<= t`. -/
theorem C05_stop (cfg : Cfg) (hu : cfg.unordered = false) (M : Nat → Nat → S) (t : S) (n : Nat)
    (p q : Nat) (hp : p < (flatCluster cfg M t n).length) (hq : q < (flatCluster cfg M t n).length)
    (hne : p ≠ q) :
    t < linkage cfg.link M (flatCluster cfg M t n)[p].2 (flatCluster cfg M t n)[q].2 := by
  have hterm := C05_terminal cfg M t n
  generalize flatCluster cfg M t n = cs at *
  -- the pair is in the scan, so a merge is offered, at a value that is refused and is no greater than the pair's
  have hmem := pairScores_complete cfg hu M cs p q hp hq hne
  unfold Terminal at hterm
  cases hnx : next cfg M cs with
  | none =>
    rcases next_eq_none hnx with h | h
    · omega
    · rw [h] at hmem; cases hmem
  | some x =>
    rw [hnx] at hterm
    have hle : x.1 ≤ _ := next_le hnx _ hmem
    have hlt : ¬ x.1 ≤ t := fun h => Bool.false_ne_true (hterm ▸ (le_iff _ _).mpr h)
    exact lt_of_lt_of_le (not_le.mp hlt) hle

theorem single_le (M : Nat → Nat → S) (t : S) (A B : List Nat) (hA : A ≠ []) (hB : B ≠ []) :
    linkage .single M A B ≤ t ↔ ∃ a ∈ A, ∃ b ∈ B, M a b ≤ t := by
  obtain ⟨hmem, hmin⟩ := listMin_spec _ (cross_ne_nil M A B hA hB)
  constructor
  · intro h
    obtain ⟨a, ha, b, hb, e⟩ := (mem_cross M A B _).mp hmem
    exact ⟨a, ha, b, hb, le_of_eq_of_le e.symm h⟩
  · rintro ⟨a, ha, b, hb, h⟩
    exact le_trans (hmin _ ((mem_cross M A B _).mpr ⟨a, ha, b, hb, rfl⟩)) h

theorem complete_le (M : Nat → Nat → S) (t : S) (A B : List Nat) (hA : A ≠ []) (hB : B ≠ []) :
    linkage .complete M A B ≤ t ↔ ∀ a ∈ A, ∀ b ∈ B, M a b ≤ t := by
  obtain ⟨hmem, hmax⟩ := listMax_spec _ (cross_ne_nil M A B hA hB)
  constructor
  · intro h a ha b hb
    exact le_trans (hmax _ ((mem_cross M A B _).mpr ⟨a, ha, b, hb, rfl⟩)) h
  · intro h
    obtain ⟨a, ha, b, hb, e⟩ := (mem_cross M A B _).mp hmem
    exact le_of_eq_of_le e (h a ha b hb)

/-- connectivity in the undirected graph joining items at distance `≤ t` -/
def Connected (M : Nat → Nat → S) (t : S) : Nat → Nat → Prop :=
  Relation.ReflTransGen (fun a b => M a b ≤ t ∨ M b a ≤ t)

omit [ScoreOps S] [ScoreLaws S] in
theorem connected_symm (M : Nat → Nat → S) (t : S) {x y : Nat} (h : Connected M t x y) :
    Connected M t y x :=
  Relation.ReflTransGen.mono (fun _ _ => Or.symm) _ _ (Relation.ReflTransGen.swap _ _ h)

/-- **C05, single linkage, part 1**: every returned cluster is connected in the `≤ t` graph. -/
theorem C05_single_connected (cfg : Cfg) (hl : cfg.link = .single) (M : Nat → Nat → S) (t : S) (n : Nat) :
    ∀ c ∈ flatCluster cfg M t n, ∀ x ∈ c.2, ∀ y ∈ c.2, Connected M t x y := by
  refine flatCluster_pairwise cfg M t (Connected M t) (fun _ => Relation.ReflTransGen.refl) ?_ n
  intro A B hA hB hQA hQB hm x hx y hy
  -- the accepted minimum is an edge `u – v` across; inside `A` and `B` everything is connected already
  rw [hl, le_iff, single_le M t A B hA hB] at hm
  obtain ⟨u, hu, v, hv, huv⟩ := hm
  have hxy : Connected M t x y :=
    ((hQA x hx u hu).trans (Relation.ReflTransGen.single (Or.inl huv))).trans (hQB v hv y hy)
  exact ⟨hxy, connected_symm M t hxy⟩

/-- **C05, single linkage, part 2**: no edge of the `≤ t` graph joins two different returned
clusters.  Together with part 1 and the partition theorem: the clusters are exactly the
connected components. -/
theorem C05_single_separated (cfg : Cfg) (hl : cfg.link = .single) (hu : cfg.unordered = false)
    (M : Nat → Nat → S) (t : S) (n : Nat)
    (p q : Nat) (hp : p < (flatCluster cfg M t n).length) (hq : q < (flatCluster cfg M t n).length)
    (hne : p ≠ q) (x y : Nat) (hx : x ∈ (flatCluster cfg M t n)[p].2) (hy : y ∈ (flatCluster cfg M t n)[q].2) :
    t < M x y := by
  have h := C05_stop cfg hu M t n p q hp hq hne
  have hN := nonEmpty_flatCluster cfg M t n
  rw [hl, ← not_le, single_le M t _ _ (hN _ (List.getElem_mem hp)) (hN _ (List.getElem_mem hq))] at h
  exact not_le.mp fun hxy => h ⟨x, hx, y, hy, hxy⟩

/-- **C05, complete linkage**: for a symmetric matrix every within-cluster distance is `≤ t`. -/
theorem C05_complete_diameter (cfg : Cfg) (hl : cfg.link = .complete) (M : Nat → Nat → S)
    (hsym : ∀ i j, M i j = M j i) (t : S) (n : Nat) :
    ∀ c ∈ flatCluster cfg M t n, ∀ x ∈ c.2, ∀ y ∈ c.2, x ≠ y → M x y ≤ t := by
  refine flatCluster_pairwise cfg M t (fun x y => x ≠ y → M x y ≤ t) (fun i h => absurd rfl h) ?_ n
  intro A B hA hB _ _ hm x hx y hy
  rw [hl, le_iff, complete_le M t A B hA hB] at hm
  exact ⟨fun _ => hm x hx y hy, fun _ => hsym x y ▸ hm x hx y hy⟩

end Verif.Cluster
