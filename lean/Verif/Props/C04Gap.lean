import Verif.Props.C04Prog
/-!
# C04 — no column of the internal alignment matrix consists only of gaps

Mechanism: `_align_profile` inserts a gap column into block A where the profile alignment has a gap in A, and into
block B only where A has none.  Hence every column of the merged block carries a column of A or a column of B; if
neither block had an all-gap column, the merged block has none (`merge_noGapCol`).  `_reduce_gap_sites` leaves no
all-gap column whatever it is given (`reduce_noGapCol`), so every refinement split merges two such blocks.
-/
namespace Verif.MSA
open Verif.SC

theorem insertGaps_get_true (g : Nat) (row : List Nat) (flags : List Bool) (i : Nat)
    (h : (flags.filter id).length = row.length) (hi : flags[i]? = some true) :
    (insertGaps g row flags).getD i g = row.getD (rank flags i) g := by
  have hr := rank_lt flags i hi
  rw [h] at hr
  simp [insertGaps, class2tokens_eq_mergeSpec row flags h, mergeSpec_getElem? flags row i h, hi, hr]

def NoGapCol (g : Nat) (block : List (List Nat)) : Prop :=
  ∀ i, i < width block → ∃ r ∈ block, r.getD i g ≠ g

theorem insertGaps_col (g : Nat) (rows : List (List Nat)) (flags : List Bool) (hrect : Rect rows)
    (hfit : (flags.filter id).length = width rows) (hgap : NoGapCol g rows) (i : Nat) (hi : flags[i]? = some true) :
    ∃ r ∈ rows.map (insertGaps g · flags), r.getD i g ≠ g := by
  have hr := rank_lt flags i hi
  rw [hfit] at hr
  obtain ⟨r, hrm, hne⟩ := hgap _ hr
  exact ⟨_, List.mem_map_of_mem hrm, by rwa [insertGaps_get_true g r flags i (by rw [hfit, hrect r hrm]) hi]⟩

theorem merge_noGapCol (g : Nat) (A B : List (List Nat)) (fa fb : List Bool) (hA : Rect A) (hB : Rect B)
    (hAne : A ≠ []) (hf : flagsOkb A B fa fb = true)
    (gA : NoGapCol g A) (gB : NoGapCol g B) : NoGapCol g (mergeBlocks g A B fa fb) := by
  obtain ⟨hlen, hca, hcb⟩ := (flagsOkb_iff A B fa fb).mp hf
  obtain ⟨a0, A', rfl⟩ := List.exists_cons_of_ne_nil hAne
  -- the first row of the merged block is the first row of `A` spread over the profile alignment
  have hwidth : width (mergeBlocks g (a0 :: A') B fa fb) = fa.length :=
    (insertGaps_spec g a0 fa (by rw [hca, hA a0 List.mem_cons_self])).1
  intro i hi
  rw [hwidth] at hi
  cases hfa : fa[i] with
  | true =>
    obtain ⟨r, hr, hne⟩ := insertGaps_col g _ fa hA hca gA i (by simp [hi, hfa])
    exact ⟨r, List.mem_append_left _ hr, hne⟩
  | false =>
    -- block B gets a real column here whatever its own index row says
    obtain ⟨r, hr, hne⟩ := insertGaps_col g B _ hB hcb gB i (by
      have hib : i < fb.length := by omega
      simp [List.getElem?_zip_eq_some, hi, hib, hfa])
    exact ⟨r, List.mem_append_right _ hr, hne⟩

theorem reduce_noGapCol (g : Nat) (msa : List (List Nat)) : NoGapCol g (reduceGapSites g msa) := by
  cases msa with
  | nil => intro i hi; simp [reduceGapSites, width] at hi
  | cons first rest =>
    intro i hi
    simp only [reduceGapSites, width, List.map_cons, List.headD_cons, List.length_map] at hi
    generalize hk : (List.range first.length).filter (keepCol g (first :: rest)) = keep at hi
    have hmem : keep[i] ∈ (List.range first.length).filter (keepCol g (first :: rest)) := by
      rw [hk]; exact List.getElem_mem hi
    have hkc := (List.mem_filter.mp hmem).2
    simp only [keepCol, Bool.not_eq_true', List.all_eq_false, beq_iff_eq] at hkc
    obtain ⟨line, hline, hne⟩ := hkc
    refine ⟨keep.map fun j => line.getD j g, ?_, ?_⟩
    · simp only [reduceGapSites, hk, List.mem_map]; exact ⟨line, hline, rfl⟩
    · rwa [← List.getElem_eq_getD (h := by simpa using hi), List.getElem_map]

theorem noGapCol_of_rows (g : Nat) {old new : List (List Nat)} (h1 : ∀ r ∈ new, r ∈ old) (h2 : ∀ r ∈ old, r ∈ new)
    (hr : Rect old) (h : NoGapCol g old) : NoGapCol g new := by
  intro i hi
  cases new with
  | nil => simp [width] at hi
  | cons c cs =>
    have hw : width (c :: cs) = width old := hr c (h1 c List.mem_cons_self)
    obtain ⟨r, hrm, hne⟩ := h i (hw ▸ hi)
    exact ⟨r, h2 r hrm, hne⟩

theorem progRun_good_nogap (g : Nat) (seqs : List (List Nat)) (steps : List PStep)
    (hok : stepsOkb g (progInit seqs) steps = true) (hg : ∀ s ∈ seqs, g ∉ s) :
    Blocks (fun A o => Good g seqs A o ∧ NoGapCol g A) (progRun g seqs steps) := by
  refine progRun_blocks g (fun A B oA oB fa fb hA hB hf => ⟨merge_good g seqs A B oA oB fa fb hA.1 hB.1 hf,
    merge_noGapCol g A B fa fb hA.1.rect hB.1.rect hA.1.ne hf hA.2 hB.2⟩) steps _
    (progInit_blocks seqs fun j hj => ⟨single_good g seqs j hj, ?_⟩) hok
  intro i hi
  simp only [width, List.headD_cons] at hi
  exact ⟨seqs[j], by simp, getD_ne_of_not_mem (hg _ (List.getElem_mem hj)) hi⟩

/-- **C04, progressive pass, no all-gap column**, when the gap symbol does not occur in the input sequences -/
theorem C04_progressive_nogap (g : Nat) (seqs : List (List Nat)) (steps : List PStep)
    (hok : stepsOkb g (progInit seqs) steps = true) (hg : ∀ s ∈ seqs, g ∉ s) :
    NoGapCol g (progressive g seqs steps) := by
  have hlast := blocks_last (progRun_good_nogap g seqs steps hok hg)
  unfold progressive
  simp only
  cases hb : (progRun g seqs steps).blocks.getLast? with
  | none => intro i hi; simp [reorder, width] at hi
  | some last =>
    obtain ⟨hgood, hgap⟩ := hlast last hb
    have hp := reorder_perm (((progRun g seqs steps).ords.getLast?).getD []) last hgood.rows.length
    exact noGapCol_of_rows g (fun _ => hp.mem_iff.mp) (fun _ => hp.mem_iff.mpr) hgood.rect hgap

/-- **C04, refinement, no all-gap column** in the block that one split merges, for ANY matrix before the split: the
reduction removes what was there, the merge adds none -/
theorem C04_refine_merged_nogap (g : Nat) (partA partB : List (List Nat)) (fa fb : List Bool)
    (hA : Rect partA) (hB : Rect partB)
    (hne : reduceGapSites g partA ≠ [])
    (hf : flagsOkb (reduceGapSites g partA) (reduceGapSites g partB) fa fb = true) :
    NoGapCol g (mergeBlocks g (reduceGapSites g partA) (reduceGapSites g partB) fa fb) :=
  merge_noGapCol g _ _ fa fb (reduce_rect g partA hA).1 (reduce_rect g partB hB).1 hne hf
    (reduce_noGapCol g partA) (reduce_noGapCol g partB)

/-- `_join` with distinct row indices loses no row of the merged block -/
theorem joinRows_mem (height w : Nat) (keys : List Nat) (vals : List (List Nat)) (hlen : keys.length = vals.length)
    (hnd : keys.Nodup) (hlt : ∀ k ∈ keys, k < height) : ∀ v ∈ vals, v ∈ joinRows height w (keys.zip vals) := by
  intro v hv
  obtain ⟨p, hp, rfl⟩ := List.getElem_of_mem hv
  have hpk : p < keys.length := by omega
  obtain ⟨p', _, _, e1, e2⟩ := find_zip keys vals hlen keys[p] (List.getElem_mem hpk)
  obtain rfl : p' = p := (List.getElem_inj hnd).mp e1
  exact List.mem_map.mpr ⟨keys[p'], List.mem_range.mpr (hlt _ (List.getElem_mem hpk)), by rw [e2]; rfl⟩

/-- **C04, one refinement split, no all-gap column**, for ANY rectangular matrix before the split (distinct row indices
in the index set) -/
theorem C04_refineSplit_nogap (g : Nat) (msa : List (List Nat)) (hr : Rect msa) (idxA : List Nat) (fa fb : List Bool)
    (hnd : idxA.Nodup) (hok : splitOkb g msa idxA fa fb = true) : NoGapCol g (refineSplit g msa idxA fa fb) := by
  obtain ⟨keys, pA, pB, parts⟩ := refineSplit_parts g msa hr idxA fa fb hok
  rw [parts.join]
  -- the matrix has exactly the rows of the merged block
  refine noGapCol_of_rows g ?_ ?_ parts.good.rect
    (C04_refine_merged_nogap g pA pB fa fb parts.rectA parts.rectB parts.neA parts.flags)
  · exact (joinRows_spec _ _ keys _ parts.good.rows fun i hi => (parts.cover i).mp hi).1
  · exact joinRows_mem _ _ keys _ parts.good.rows.length.symm (parts.nodup hnd) fun k hk => (parts.cover k).mpr hk

/-- **C04, any non-empty sequence of refinement splits** ends without an all-gap column, whatever the matrix was at the start -/
theorem C04_history_nogap (g : Nat) : ∀ (hist : List Split) (msa : List (List Nat)), hist ≠ [] → Rect msa →
    histOkb g msa hist = true → (∀ s ∈ hist, s.1.Nodup) →
    NoGapCol g (hist.foldl (fun m s => refineSplit g m s.1 s.2.1 s.2.2) msa)
  | [], _, hne, _, _, _ => absurd rfl hne
  | s :: r, msa, _, hr, hok, hnd => by
    simp only [histOkb, Bool.and_eq_true] at hok
    -- the first split makes the matrix free of all-gap columns, every later one keeps it so
    have step : ∀ m, ∀ t ∈ s :: r, Rect m → splitOkb g m t.1 t.2.1 t.2.2 = true →
        Rect (refineSplit g m t.1 t.2.1 t.2.2) ∧ NoGapCol g (refineSplit g m t.1 t.2.1 t.2.2) :=
      fun m t ht hm h => ⟨(C04_refineSplit g m hm t.1 t.2.1 t.2.2 h).2.1,
        C04_refineSplit_nogap g m hm t.1 t.2.1 t.2.2 (hnd t ht) h⟩
    exact (hist_fold g (P := fun m => Rect m ∧ NoGapCol g m) r
      (fun m t ht hm h => step m t (List.mem_cons_of_mem _ ht) hm.1 h) _ (step msa s List.mem_cons_self hr hok.1) hok.2).2

/-- a merge that needs the rule "B gets a gap only where A has none": both index rows have a gap in the middle column -/
example : mergeBlocks 0 [[1, 2]] [[3, 4, 5]] [true, false, true] [true, false, true] = [[1, 0, 2], [3, 4, 5]] ∧
    flagsOkb [[1, 2]] [[3, 4, 5]] [true, false, true] [true, false, true] = true := by decide

end Verif.MSA
