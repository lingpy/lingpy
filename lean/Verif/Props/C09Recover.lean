import Verif.Props.C09Ultra
import Verif.Props.C05Order
/-!
# C09 — UPGMA recovers the generating clades of an ultrametric matrix

`UT` is a rooted binary tree whose internal nodes carry the distance value of the leaf pairs they
separate; `Gen M T` says the matrix is the one the tree generates (every pair of leaves separated at a
node has that node's value, in both orders), `Mono T` that the values strictly decrease towards the
leaves (no assumption that values of unrelated nodes differ – ties between unrelated nodes only change
the order of the joins).

Invariant of the run (`CutInv`): the live clusters are, up to the order of clusters and of members, a
*cut* of `T` – a set of pairwise disjoint clades covering all leaves.  Step (`merge_cut`): a pair of
clusters of minimal mean distance is a pair of sibling clades: the mean distance of two clades of a
cut is the value of their lowest common ancestor, and if one of the two were not a child of that
ancestor, the child containing it would be split by the cut and offer a strictly closer pair.  So
every join creates the clade of a node of `T` from the clades of its two children.

Arithmetic: the fact that the mean of a non-empty list of equal values is that value
(`MeanConst`; proved for the `Int` carrier).  For doubles the mean of equal values can differ in the
last bit, so this is a theorem about exact arithmetic, like `C09_upgma_ultrametric`; the recovery on
the real code is exercised by the oracle on generated ultrametric trees.
-/
namespace Verif.TreeBuild
open Verif.Align Verif.Cluster ScoreOps ScoreLaws
section
variable {S : Type}

inductive UT (S : Type) where
  | leaf (i : Nat)
  | node (d : S) (l r : UT S)

def UT.leaves : UT S → List Nat
  | .leaf i => [i]
  | .node _ l r => l.leaves ++ r.leaves

def Gen (M : Nat → Nat → S) : UT S → Prop
  | .leaf _ => True
  | .node d l r => (∀ a ∈ l.leaves, ∀ b ∈ r.leaves, M a b = d ∧ M b a = d) ∧ Gen M l ∧ Gen M r

inductive Cut : UT S → List (List Nat) → Prop
  | whole (t : UT S) (c : List Nat) : c.Perm t.leaves → Cut t [c]
  | split (d : S) (l r : UT S) (cl cr : List (List Nat)) : Cut l cl → Cut r cr → Cut (.node d l r) (cl ++ cr)

inductive Sub : UT S → UT S → Prop
  | refl (t : UT S) : Sub t t
  | left (s : UT S) (d : S) (l r : UT S) : Sub s l → Sub s (.node d l r)
  | right (s : UT S) (d : S) (l r : UT S) : Sub s r → Sub s (.node d l r)

theorem leaves_ne_nil : ∀ (t : UT S), t.leaves ≠ []
  | .leaf i => by simp [UT.leaves]
  | .node d l r => by simp [UT.leaves, leaves_ne_nil l]

theorem cut_ne_nil {t : UT S} {cut : List (List Nat)} (h : Cut t cut) : cut ≠ [] := by
  induction h with
  | whole t c _ => simp
  | split d l r cl cr _ _ ihl _ => simp [ihl]

theorem cut_members {t : UT S} {cut : List (List Nat)} (h : Cut t cut) :
    ∀ c ∈ cut, c ≠ [] ∧ ∀ x ∈ c, x ∈ t.leaves := by
  induction h with
  | whole t c hp =>
    rw [List.forall_mem_singleton]
    exact ⟨fun h0 => leaves_ne_nil t (h0 ▸ hp).symm.eq_nil, fun x hx => hp.mem_iff.mp hx⟩
  | split d l r cl cr _ _ ihl ihr =>
    intro c hc
    rcases List.mem_append.mp hc with hc | hc
    · exact ⟨(ihl c hc).1, fun x hx => List.mem_append_left _ ((ihl c hc).2 x hx)⟩
    · exact ⟨(ihr c hc).1, fun x hx => List.mem_append_right _ ((ihr c hc).2 x hx)⟩

theorem cut_disjoint_sides {d : S} {l r : UT S} {cl cr : List (List Nat)} (hl : Cut l cl) (hr : Cut r cr)
    (hnd : (UT.node d l r).leaves.Nodup) (c : List Nat) (h1 : c ∈ cl) (h2 : c ∈ cr) : False := by
  simp only [UT.leaves] at hnd
  have hs := List.nodup_append.mp hnd
  obtain ⟨hne, hsub⟩ := cut_members hl c h1
  obtain ⟨x, hx⟩ := List.exists_mem_of_ne_nil c hne
  exact hs.2.2 x (hsub x hx) x ((cut_members hr c h2).2 x hx) rfl

theorem cut_nodup {t : UT S} {cut : List (List Nat)} (h : Cut t cut) (hnd : t.leaves.Nodup) : cut.Nodup := by
  induction h with
  | whole t c _ => simp
  | split d l r cl cr hl hr ihl ihr =>
    have hs := List.nodup_append.mp (show (l.leaves ++ r.leaves).Nodup from hnd)
    exact List.nodup_append.mpr ⟨ihl hs.1, ihr hs.2.1, fun a ha b hb hab =>
      cut_disjoint_sides hl hr hnd a ha (hab ▸ hb)⟩

theorem cut_clade {t : UT S} {cut : List (List Nat)} (h : Cut t cut) :
    ∀ c ∈ cut, ∃ s, Sub s t ∧ c.Perm s.leaves := by
  induction h with
  | whole t c hp =>
    rw [List.forall_mem_singleton]
    exact ⟨t, Sub.refl t, hp⟩
  | split d l r cl cr _ _ ihl ihr =>
    intro c hc
    rcases List.mem_append.mp hc with hc | hc
    · obtain ⟨s, hs, hp⟩ := ihl c hc; exact ⟨s, Sub.left s d l r hs, hp⟩
    · obtain ⟨s, hs, hp⟩ := ihr c hc; exact ⟨s, Sub.right s d l r hs, hp⟩

theorem cut_leaves : ∀ (t : UT S), Cut t (t.leaves.map fun i => [i])
  | .leaf i => by simpa [UT.leaves] using Cut.whole (.leaf i) [i] (by simp [UT.leaves])
  | .node d l r => by
    simp only [UT.leaves, List.map_append]
    exact Cut.split d l r _ _ (cut_leaves l) (cut_leaves r)

end

section
variable {S : Type} [ScoreOps S]

def MeanConst (S : Type) [ScoreOps S] : Prop :=
  ∀ (vals : List S) (x : S), vals ≠ [] → (∀ v ∈ vals, v = x) → div (ScoreOps.sum vals) (ofNat vals.length) = x

def lk (M : Nat → Nat → S) (A B : List Nat) : S := linkage .average M A B

theorem lk_const (hmean : MeanConst S) (M : Nat → Nat → S) (A B : List Nat) (hA : A ≠ []) (hB : B ≠ []) (d : S)
    (h : ∀ a ∈ A, ∀ b ∈ B, M a b = d) : lk M A B = d := by
  unfold lk linkage
  simp only
  apply hmean _ _ (cross_ne_nil M A B hA hB)
  intro v hv
  obtain ⟨a, ha, b, hb, rfl⟩ := (mem_cross M A B v).mp hv
  exact h a ha b hb

theorem lk_across (hmean : MeanConst S) (M : Nat → Nat → S) {d : S} {l r : UT S} {cl cr : List (List Nat)}
    (hl : Cut l cl) (hr : Cut r cr) (hcross : ∀ a ∈ l.leaves, ∀ b ∈ r.leaves, M a b = d ∧ M b a = d)
    {X Y : List Nat} (hX : X ∈ cl) (hY : Y ∈ cr) : lk M X Y = d ∧ lk M Y X = d := by
  obtain ⟨hXne, hXs⟩ := cut_members hl X hX
  obtain ⟨hYne, hYs⟩ := cut_members hr Y hY
  exact ⟨lk_const hmean M X Y hXne hYne d fun a ha b hb => (hcross a (hXs a ha) b (hYs b hb)).1,
    lk_const hmean M Y X hYne hXne d fun b hb a ha => (hcross a (hXs a ha) b (hYs b hb)).2⟩

theorem cut_top_pair (hmean : MeanConst S) (M : Nat → Nat → S) {d : S} {l r : UT S} {cl cr : List (List Nat)}
    (hl : Cut l cl) (hr : Cut r cr) (hgen : Gen M (.node d l r)) (hnd : (UT.node d l r).leaves.Nodup) :
    ∃ X ∈ cl ++ cr, ∃ Y ∈ cl ++ cr, X ≠ Y ∧ lk M X Y = d := by
  obtain ⟨X, hX⟩ := List.exists_mem_of_ne_nil cl (cut_ne_nil hl)
  obtain ⟨Y, hY⟩ := List.exists_mem_of_ne_nil cr (cut_ne_nil hr)
  exact ⟨X, List.mem_append_left _ hX, Y, List.mem_append_right _ hY,
    fun h => cut_disjoint_sides hl hr hnd X hX (h ▸ hY), (lk_across hmean M hl hr hgen.1 hX hY).1⟩

/-- the leaf set decoded from the tree matrix for node id `k` -/
def clade (n : Nat) (rows : List (Row S)) (k : Nat) : List Nat := (leafDepths n rows (k + 1) k).map (·.1)

theorem clade_append (n : Nat) (rows r : List (Row S)) (wf : RowsWf n rows) (k : Nat) (hk : k < n + rows.length) :
    clade n (rows ++ r) k = clade n rows k := by
  unfold clade
  rw [leafDepths_append n rows r wf _ k (Nat.lt_succ_self _) hk]

end

variable {S : Type} [ScoreOps S] [LinearOrder S] [ScoreLaws S]

def Below (d : S) : UT S → Prop
  | .leaf _ => True
  | .node d' _ _ => d' < d

def Mono : UT S → Prop
  | .leaf _ => True
  | .node d l r => Below d l ∧ Below d r ∧ Mono l ∧ Mono r

-- the statement takes the section's `[ScoreLaws S]`, which the proof does not need
set_option linter.unusedSectionVars false in
theorem merge_cut (hmean : MeanConst S) (M : Nat → Nat → S) {t : UT S} {cut : List (List Nat)} (h : Cut t cut) :
    t.leaves.Nodup → Gen M t → Mono t → ∀ A B : List Nat, A ∈ cut → B ∈ cut → A ≠ B →
    (∀ X ∈ cut, ∀ Y ∈ cut, X ≠ Y → lk M A B ≤ lk M X Y) →
    (∃ cut', Cut t cut' ∧ cut'.Perm ((A ++ B) :: (cut.erase A).erase B)) ∧
    (∃ d l r, Sub (.node d l r) t ∧ lk M A B = d ∧
      ((A.Perm l.leaves ∧ B.Perm r.leaves) ∨ (A.Perm r.leaves ∧ B.Perm l.leaves))) := by
  induction h with
  | whole t c _ =>
    intro _ _ _ A B hA hB hAB _
    simp only [List.mem_singleton] at hA hB
    exact absurd (hA.trans hB.symm) hAB
  | split d l r cl cr hl hr ihl ihr =>
    intro hnd hgen hmono A B hA hB hAB hmin
    have hs := List.nodup_append.mp (show (l.leaves ++ r.leaves).Nodup from hnd)
    obtain ⟨hcross, hgl, hgr⟩ := hgen
    obtain ⟨hbl, hbr, hml, hmr⟩ := hmono
    -- a side that is split by the cut offers a strictly closer pair than any pair across the top
    have side_whole : ∀ (s : UT S) (cs : List (List Nat)), Cut s cs → Below d s → Gen M s → s.leaves.Nodup →
        (∀ X ∈ cs, ∀ Y ∈ cs, X ≠ Y → d ≤ lk M X Y) → ∃ c, cs = [c] ∧ c.Perm s.leaves := by
      intro s cs hc hb hg hn hge
      cases hc with
      | whole _ c hp => exact ⟨c, rfl, hp⟩
      | split d' l1 l2 c1 c2 h1 h2 =>
        exfalso
        obtain ⟨X, hX, Y, hY, hXY, hv⟩ := cut_top_pair hmean M h1 h2 hg hn
        have := hge X hX Y hY hXY
        rw [hv] at this
        simp only [Below] at hb
        order
    -- a pair across the top split has value `d`, so neither side is split: the cut is the two children
    have across : ∀ X ∈ cl, ∀ Y ∈ cr, (∀ P ∈ cl ++ cr, ∀ Q ∈ cl ++ cr, P ≠ Q → d ≤ lk M P Q) →
        cl = [X] ∧ cr = [Y] ∧ X.Perm l.leaves ∧ Y.Perm r.leaves := by
      intro X hX Y hY hge
      obtain ⟨a, rfl, hpa⟩ := side_whole l cl hl hbl hgl hs.1 fun P hP Q hQ =>
        hge P (List.mem_append_left _ hP) Q (List.mem_append_left _ hQ)
      obtain ⟨b, rfl, hpb⟩ := side_whole r cr hr hbr hgr hs.2.1 fun P hP Q hQ =>
        hge P (List.mem_append_right _ hP) Q (List.mem_append_right _ hQ)
      rw [List.mem_singleton] at hX hY
      subst hX hY
      exact ⟨rfl, rfl, hpa, hpb⟩
    rcases List.mem_append.mp hA with hAl | hAr <;> rcases List.mem_append.mp hB with hBl | hBr
    · obtain ⟨⟨cl', hc', hp'⟩, ⟨d0, l0, r0, hsub, hv, hsib⟩⟩ := ihl hs.1 hgl hml A B hAl hBl hAB
        (fun X hX Y hY => hmin X (List.mem_append_left _ hX) Y (List.mem_append_left _ hY))
      refine ⟨⟨cl' ++ cr, Cut.split d l r cl' cr hc' hr, ?_⟩,
        ⟨d0, l0, r0, Sub.left _ d l r hsub, hv, hsib⟩⟩
      have hBe : B ∈ cl.erase A := (List.mem_erase_of_ne (Ne.symm hAB)).mpr hBl
      rw [List.erase_append_left _ hAl, List.erase_append_left _ hBe]
      exact (List.Perm.append_right cr hp')
    · have hv := (lk_across hmean M hl hr hcross hAl hBr).1
      obtain ⟨rfl, rfl, hpa, hpb⟩ := across A hAl B hBr (hv ▸ hmin)
      exact ⟨⟨[A ++ B], Cut.whole _ _ (hpa.append hpb), by simp⟩,
        ⟨d, l, r, Sub.refl _, hv, Or.inl ⟨hpa, hpb⟩⟩⟩
    · have hv := (lk_across hmean M hl hr hcross hBl hAr).2
      obtain ⟨rfl, rfl, hpb, hpa⟩ := across B hBl A hAr (hv ▸ hmin)
      exact ⟨⟨[A ++ B], Cut.whole _ _ (List.perm_append_comm.trans (hpb.append hpa)), by simp [Ne.symm hAB]⟩,
        ⟨d, l, r, Sub.refl _, hv, Or.inr ⟨hpa, hpb⟩⟩⟩
    · have hAnl : A ∉ cl := fun h => cut_disjoint_sides hl hr hnd A h hAr
      have hBnl : B ∉ cl := fun h => cut_disjoint_sides hl hr hnd B h hBr
      obtain ⟨⟨cr', hc', hp'⟩, ⟨d0, l0, r0, hsub, hv, hsib⟩⟩ := ihr hs.2.1 hgr hmr A B hAr hBr hAB
        (fun X hX Y hY => hmin X (List.mem_append_right _ hX) Y (List.mem_append_right _ hY))
      refine ⟨⟨cl ++ cr', Cut.split d l r cl cr' hl hc', ?_⟩,
        ⟨d0, l0, r0, Sub.right _ d l r hsub, hv, hsib⟩⟩
      rw [List.erase_append_right _ hAnl, List.erase_append_right _ hBnl]
      exact (List.Perm.append_left cl hp').trans List.perm_middle

def CutInv (T : UT S) (st : UState S) : Prop :=
  ∃ cut, Cut T cut ∧ cut.Perm (st.clusters.map (·.2))

/-- every join recorded so far created a node of `T` from its two children, at half its distance value -/
def RowsInv (n : Nat) (T : UT S) (st : UState S) : Prop :=
  ∀ (j a b : Nat) (x y : S), st.rows[j]? = some (a, b, x, y) →
    ∃ d l r, Sub (.node d l r) T ∧ heightOf st.heights (n + j) = div d two ∧
      (((clade n st.rows a).Perm l.leaves ∧ (clade n st.rows b).Perm r.leaves) ∨
       ((clade n st.rows a).Perm r.leaves ∧ (clade n st.rows b).Perm l.leaves))

theorem upgmaStep_recover (hmean : MeanConst S) (lastMin : Bool) (M : Nat → Nat → S) (n : Nat) (T : UT S)
    (hnd : T.leaves.Nodup) (hgen : Gen M T) (hmono : Mono T)
    (st st' : UState S) (hu : UInv n st) (hc : CutInv T st) (hr : RowsInv n T st)
    (h : upgmaStep lastMin M st = some st') : CutInv T st' ∧ RowsInv n T st' := by
  obtain ⟨p, q, hp, hq, m, rest, hne, hpick, hval, hperm, rfl⟩ := upgmaStep_eq lastMin M st st' h
  obtain ⟨cut, hcut, hcp⟩ := hc
  have hnodup : (st.clusters.map (·.2)).Nodup := hcp.nodup_iff.mp (cut_nodup hcut hnd)
  have hpm : st.clusters[p] ∈ st.clusters := List.getElem_mem hp
  have hqm : st.clusters[q] ∈ st.clusters := List.getElem_mem hq
  have hAB : st.clusters[p].2 ≠ st.clusters[q].2 := fun hab =>
    hne ((List.getElem_inj (h₀ := by simpa using hp) (h₁ := by simpa using hq) hnodup).mp (by simpa using hab))
  have hminCut : ∀ X ∈ cut, ∀ Y ∈ cut, X ≠ Y → lk M st.clusters[p].2 st.clusters[q].2 ≤ lk M X Y := by
    simp only [hcp.mem_iff, List.forall_mem_map, List.forall_mem_iff_forall_getElem]
    intro p' hp' q' hq' hXY
    have := argMin_le _ _ _ hpick _ (pairScores_complete ⟨.average, lastMin, false⟩ rfl M st.clusters p' q' hp' hq'
      fun e => hXY (by subst e; rfl))
    rwa [hval] at this
  obtain ⟨⟨cut', hcut', hp'⟩, ⟨d, l, r, hsub, hv, hsib⟩⟩ :=
    merge_cut hmean M hcut hnd hgen hmono _ _ (hcp.mem_iff.mpr (List.mem_map.mpr ⟨_, hpm, rfl⟩))
      (hcp.mem_iff.mpr (List.mem_map.mpr ⟨_, hqm, rfl⟩)) hAB hminCut
  rw [hu.maxKey]
  refine ⟨⟨cut', hcut', ?_⟩, ?_⟩
  · have h1 : cut.Perm (st.clusters[p].2 :: st.clusters[q].2 :: rest.map (·.2)) :=
      hcp.trans (by simpa using (hperm.map (·.2)).symm)
    have h3 : ((cut.erase st.clusters[p].2).erase st.clusters[q].2).Perm (rest.map (·.2)) := by
      simpa using (h1.erase st.clusters[p].2).erase st.clusters[q].2
    simp only [List.map_append, List.map_cons, List.map_nil]
    exact hp'.trans ((List.Perm.cons _ h3).trans (List.perm_append_singleton _ _).symm)
  · intro j a b x y hj
    rcases getElem?_snoc hj with ⟨_, ho⟩ | ⟨rfl, hn⟩
    · obtain ⟨d0, l0, r0, hs0, hh0, hsib0⟩ := hr j a b x y ho
      obtain ⟨ha, hb⟩ := hu.wf j a b x y ho
      refine ⟨d0, l0, r0, hs0, ?_, ?_⟩
      · rw [heightOf_append_ne _ _ _ _ (by omega)]; exact hh0
      · rw [clade_append n _ _ hu.wf a (by omega), clade_append n _ _ hu.wf b (by omega)]; exact hsib0
    · simp only [Prod.mk.injEq] at hn
      obtain ⟨rfl, rfl, _, _⟩ := hn
      have ea : clade n st.rows st.clusters[p].1 = st.clusters[p].2 := (hu.ld _ hpm).1
      have eb : clade n st.rows st.clusters[q].1 = st.clusters[q].2 := (hu.ld _ hqm).1
      refine ⟨d, l, r, hsub, ?_, ?_⟩
      · rw [heightOf_append_new _ _ _ hu.hkeys, hval]
        exact congrArg (div · two) hv
      · rw [clade_append n _ _ hu.wf _ (hu.keysLt _ hpm), clade_append n _ _ hu.wf _ (hu.keysLt _ hqm), ea, eb]
        exact hsib

/-- **C09, recovery (UPGMA)**: on the matrix generated by a binary tree `T` on the taxa `0 … n-1` whose
node values strictly decrease towards the leaves, in exact arithmetic, every row `(a, b, …)` of the
tree matrix returned by `_upgma` joins the clades of the two children of a node `node d l r` of `T` (up to
the order of the leaves) and the new node is put at height `d / 2`; there are `n − 1` such joins
and the last cluster is the leaf set of `T`.  So every clade of the result is a generating clade.  That
different rows make different nodes of `T`, hence all `n − 1` of them, is not stated. -/
theorem C09_upgma_recovers (hmean : MeanConst S) (hlaw : ∀ h x : S, add x (sub h x) = h)
    (lastMin : Bool) (M : Nat → Nat → S) (n : Nat) (hn : 1 ≤ n) (T : UT S)
    (hleaves : T.leaves.Perm (List.range n)) (hgen : Gen M T) (hmono : Mono T) :
    (∀ (j a b : Nat) (x y : S), (upgma lastMin M n).rows[j]? = some (a, b, x, y) →
      ∃ d l r, Sub (.node d l r) T ∧ heightOf (upgma lastMin M n).heights (n + j) = div d two ∧
        (((clade n (upgma lastMin M n).rows a).Perm l.leaves ∧ (clade n (upgma lastMin M n).rows b).Perm r.leaves) ∨
         ((clade n (upgma lastMin M n).rows a).Perm r.leaves ∧ (clade n (upgma lastMin M n).rows b).Perm l.leaves))) ∧
    (upgma lastMin M n).rows.length = n - 1 ∧
    (∃ root members, (upgma lastMin M n).clusters = [(root, members)] ∧ members.Perm T.leaves) := by
  have hnd : T.leaves.Nodup := hleaves.nodup_iff.mpr List.nodup_range
  have hc0 : CutInv T (⟨init n, (List.range n).map fun i => (i, zero), []⟩ : UState S) := by
    refine ⟨T.leaves.map fun i => [i], cut_leaves T, ?_⟩
    have : (init n).map (·.2) = (List.range n).map fun i => [i] := by simp [init, List.map_map, Function.comp_def]
    simp only [this]
    exact hleaves.map _
  have hr0 : RowsInv n T (⟨init n, (List.range n).map fun i => (i, zero), []⟩ : UState S) := by
    intro j a b x y hj; simp at hj
  obtain ⟨_, _, hr⟩ := upgma_inv lastMin M n (fun st => UInv n st ∧ CutInv T st ∧ RowsInv n T st)
    ⟨uinv_init n hn, hc0, hr0⟩ fun st st' h hs =>
      ⟨upgmaStep_inv hlaw lastMin M n st st' h.1 hs,
        upgmaStep_recover hmean lastMin M n T hnd hgen hmono st st' h.1 h.2.1 h.2.2 hs⟩
  obtain ⟨root, members, hcl, hperm⟩ := upgma_root lastMin M n hn
  exact ⟨hr, (C09_upgma_structure lastMin M n hn).2.2, root, members, hcl, hperm.trans hleaves.symm⟩

/-! ### the `Int` carrier satisfies the arithmetic hypotheses; the theorem is not vacuous -/

theorem meanConst_int : MeanConst Int := by
  intro vals x hne hall
  have hpos : (vals.length : Int) ≠ 0 := by have := List.length_pos_iff.mpr hne; omega
  show (vals.foldl (· + ·) 0) / (Int.ofNat vals.length) = x
  rw [← List.sum_eq_foldl, List.eq_replicate_of_mem hall, List.sum_replicate_int, List.length_replicate]
  exact Int.mul_ediv_cancel_left x hpos

/-- `((0,1):2, 2):6` as distance values (heights 1 and 3) -/
def exUT : UT Int := .node 6 (.node 2 (.leaf 0) (.leaf 1)) (.leaf 2)
def exM : Nat → Nat → Int := fun i j => if i = j then 0 else if i + j = 1 then 2 else 6

example : exUT.leaves.Perm (List.range 3) := by decide
example : Mono exUT := by simp [Mono, Below, exUT]
example : Gen exM exUT := by
  simp only [Gen, exUT, UT.leaves, exM]
  decide

end Verif.TreeBuild
