import Verif.Model.Heap
/-!
# C19 — frame theorem: an object that copied its rows cannot interfere with its source

If the constructor copies the rows, then for **every** sequence of operations on the new
object the source's rows are unchanged, and operations on the source do not show in the new
object.  For the sharing constructor the negation is proved with a two-row witness.
-/
namespace Verif.Heap

theorem update_length (h : Heap) (a : Nat) (f : List Int → List Int) : (update h a f).length = h.length := by
  simp [update]

theorem update_getD_ne (h : Heap) (a b : Nat) (f : List Int → List Int) (hne : b ≠ a) :
    (update h a f).getD b [] = h.getD b [] := by
  simp only [update, List.getD_eq_getElem?_getD, List.getElem?_mapIdx]
  cases hb : h[b]? with
  | none => simp
  | some row => simp [hne]

theorem foldl_update_getD_ne (f : List Int → List Int) (rs : List Nat) (h : Heap) (b : Nat) (hb : b ∉ rs) :
    (rs.foldl (fun h a => update h a f) h).getD b [] = h.getD b [] := by
  induction rs generalizing h with
  | nil => rfl
  | cons a rs ih =>
    rw [List.foldl_cons, ih _ (List.not_mem_of_not_mem_cons hb), update_getD_ne h a b f (List.ne_of_not_mem_cons hb)]

/-- an operation writes only through the object's own references -/
theorem applyOp_frame (o : Obj) (h : Heap) (op : Op) (b : Nat) (hb : b ∉ o.rows) :
    (applyOp o h op).getD b [] = h.getD b [] := by
  cases op with
  | addCol v => exact foldl_update_getD_ne _ o.rows h b hb
  | assign r col v =>
    simp only [applyOp]
    cases hr : o.rows[r]? with
    | none => rfl
    | some a => exact update_getD_ne h a b _ fun e => hb (e ▸ List.mem_of_getElem? hr)

theorem runOps_frame (o : Obj) (ops : List Op) (h : Heap) (b : Nat) (hb : b ∉ o.rows) :
    (runOps o h ops).getD b [] = h.getD b [] := by
  induction ops generalizing h with
  | nil => rfl
  | cons op ops ih =>
    simp only [runOps, List.foldl_cons] at ih ⊢
    rw [ih, applyOp_frame o h op b hb]

theorem view_runOps_disjoint (o p : Obj) (h : Heap) (ops : List Op) (hd : ∀ a ∈ p.rows, a ∉ o.rows) :
    view p (runOps o h ops) = view p h :=
  List.map_congr_left fun a ha => runOps_frame o ops h a (hd a ha)

/-- the copies stand at fresh addresses, behind those the source refers to -/
theorem construct_disjoint (src : Obj) (h : Heap) (hwf : ∀ a ∈ src.rows, a < h.length) :
    ∀ a ∈ src.rows, a ∉ (construct true src h).1.rows := by
  intro a ha hn
  simp only [construct, if_true, List.mem_map, List.mem_range] at hn
  obtain ⟨i, _, rfl⟩ := hn
  exact absurd (hwf _ ha) (by omega)

theorem view_construct (src : Obj) (h : Heap) (hwf : ∀ a ∈ src.rows, a < h.length) :
    view src (construct true src h).2 = view src h :=
  List.map_congr_left fun a ha => by
    simp only [construct, if_true, List.getD_eq_getElem?_getD, List.getElem?_append_left (hwf a ha)]

/-- **C19, frame theorem** -/
theorem C19_frame (src : Obj) (h : Heap) (hwf : ∀ a ∈ src.rows, a < h.length) (ops : List Op) :
    view src (runOps (construct true src h).1 (construct true src h).2 ops) = view src h := by
  rw [view_runOps_disjoint _ src _ ops (construct_disjoint src h hwf), view_construct src h hwf]

/-- **… and conversely**: operations on the source do not change what the new object sees. -/
theorem C19_frame_converse (src : Obj) (h : Heap) (hwf : ∀ a ∈ src.rows, a < h.length) (ops : List Op) :
    view (construct true src h).1 (runOps src (construct true src h).2 ops) =
      view (construct true src h).1 (construct true src h).2 :=
  view_runOps_disjoint src _ _ ops fun a ha hn => construct_disjoint src h hwf a hn ha

theorem C19_copy_faithful (src : Obj) (h : Heap) :
    view (construct true src h).1 (construct true src h).2 = view src h := by
  simp only [view, construct, if_true, List.map_map]
  apply List.ext_getElem
  · simp
  · intro i h1 h2
    simp only [List.getElem_map, List.getElem_range, Function.comp]
    simp only [List.length_map, List.length_range] at h1
    rw [List.getD_eq_getElem?_getD, List.getElem?_append_right (by omega)]
    simp [h1]

/-- **Negation for the sharing constructor**: one added column changes the caller's rows. -/
theorem C19_alias_witness :
    view ⟨[0, 1]⟩ (runOps (construct false ⟨[0, 1]⟩ [[1, 2], [3, 4]]).1
      (construct false ⟨[0, 1]⟩ [[1, 2], [3, 4]]).2 [.addCol 9]) ≠ view ⟨[0, 1]⟩ [[1, 2], [3, 4]] := by
  decide

/-- non-vacuity of the frame theorem on the same two rows -/
example : view ⟨[0, 1]⟩ (runOps (construct true ⟨[0, 1]⟩ [[1, 2], [3, 4]]).1
      (construct true ⟨[0, 1]⟩ [[1, 2], [3, 4]]).2 [.addCol 9, .assign 0 1 7]) = [[1, 2], [3, 4]] := by
  decide

/-- a working copy made of row slices protects a nested list … -/
theorem C19_rowSlices_list (src : Obj) (h : Heap) (hwf : ∀ a ∈ src.rows, a < h.length) (ops : List Op) :
    view src (runOps (rowSlices false src h).1 (rowSlices false src h).2 ops) = view src h :=
  C19_frame src h hwf ops

/-- … and does not protect a numpy array (the seeded change C19l of DESIGN.md §10.18): one cell assigned through the "copy" -/
theorem C19_rowSlices_array_witness :
    view ⟨[0, 1]⟩ (runOps (rowSlices true ⟨[0, 1]⟩ [[0, 5], [5, 0]]).1
      (rowSlices true ⟨[0, 1]⟩ [[0, 5], [5, 0]]).2 [.assign 0 1 7]) ≠ view ⟨[0, 1]⟩ [[0, 5], [5, 0]] := by
  decide

/-! What `flat_cluster('ward', …)` does to the caller's matrix is a two-case parameter of the model (it squares into a copy,
or in place); which case holds is decided by observation, so `C19_matrix_unchanged` is the first case of the definition. -/

def squareInPlace (m : List (List Int)) : List (List Int) := m.map fun r => r.map fun c => c * c

def wardEffect (copies : Bool) (m : List (List Int)) : List (List Int) :=
  if copies then m else squareInPlace m

theorem C19_matrix_unchanged (m : List (List Int)) : wardEffect true m = m := rfl

theorem C19_matrix_witness : wardEffect false [[0, 2], [2, 0]] ≠ [[0, 2], [2, 0]] := by decide

end Verif.Heap
