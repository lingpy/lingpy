import Verif.Model.Partial
import Verif.Lemmas.ListFacts
/-!
# C16 — partial cognates: one id per morpheme, concept-disjoint ids, exact 'strict' derivation
-/
namespace Verif.Partial

/-- what a reverted flat clustering of an `n × n` matrix returns: one label per morpheme, between 1 and `n` -/
def WF (parts : List (List Nat × List Nat)) : Prop :=
  ∀ p ∈ parts, p.1.length = p.2.length ∧ ∀ l ∈ p.2, 1 ≤ l ∧ l ≤ p.2.length

/-- **C16, one id per morpheme**: per concept the output lists exactly the morphemes' words, in order. -/
theorem C16_count (parts : List (List Nat × List Nat)) (hwf : WF parts) : ∀ k,
    (pglue k parts).map (fun c => c.map (·.1)) = parts.map (·.1) := by
  induction parts with
  | nil => intro k; rfl
  | cons p rest ih =>
    intro k
    obtain ⟨ws, labs⟩ := p
    have h := hwf (ws, labs) List.mem_cons_self
    simp only [pglue, List.map_cons]
    rw [ih (fun q hq => hwf q (List.mem_cons_of_mem _ hq))]
    congr 1
    rw [List.map_fst_zip]
    simp [h.1]

theorem pglue_gt (parts : List (List Nat × List Nat)) (hwf : WF parts) : ∀ k,
    ∀ c ∈ pglue k parts, ∀ e ∈ c, k < e.2 := by
  induction parts with
  | nil => intro k c hc; simp [pglue] at hc
  | cons p rest ih =>
    intro k c hc e he
    obtain ⟨ws, labs⟩ := p
    have h := hwf (ws, labs) List.mem_cons_self
    simp only [pglue, List.mem_cons] at hc
    rcases hc with rfl | hc
    · obtain ⟨l, hl, hle⟩ := List.mem_map.mp (List.of_mem_zip he).2
      exact hle ▸ Nat.lt_add_of_pos_left (h.2 l hl).1
    · exact Nat.lt_of_le_of_lt (Nat.le_add_right k (labs.length + 1))
        (ih (fun q hq => hwf q (List.mem_cons_of_mem _ hq)) _ c hc e he)

/-- **C16, ids are never shared between concepts**: every id of the first concept is at most
`k + n` and every id of a later concept is greater than `k + n + 1`. -/
theorem C16_no_cross_concept (p : List Nat × List Nat) (rest : List (List Nat × List Nat))
    (hwf : WF (p :: rest)) (k : Nat) :
    ∀ e ∈ (pglue k (p :: rest)).headD [], ∀ c ∈ (pglue k (p :: rest)).tail, ∀ e' ∈ c, e.2 < e'.2 := by
  obtain ⟨ws, labs⟩ := p
  intro e he c hc e' he'
  simp only [pglue, List.headD_cons, List.tail_cons] at he hc
  obtain ⟨l, hl, hle⟩ := List.mem_map.mp (List.of_mem_zip he).2
  have h1 : l ≤ labs.length := ((hwf (ws, labs) List.mem_cons_self).2 l hl).2
  have h2 := pglue_gt rest (fun q hq => hwf q (List.mem_cons_of_mem _ hq)) _ c hc e' he'
  omega

theorem mem_distinct {α : Type} [DecidableEq α] (xs : List α) (x : α) : x ∈ distinct xs ↔ x ∈ xs := by
  simpa [distinct] using mem_foldl_firstOcc xs [] x

/-- **C16, strict ids are exact**: two words get the same strict id iff their sequences of
partial ids are identical; ids are positive. -/
theorem C16_strict (rows : List (Nat × List Nat)) (a b : Nat × List Nat) (ha : a ∈ rows) (hb : b ∈ rows) :
    ((distinct (rows.map (·.2))).idxOf a.2 + 1 = (distinct (rows.map (·.2))).idxOf b.2 + 1 ↔ a.2 = b.2) ∧
    (a.1, (distinct (rows.map (·.2))).idxOf a.2 + 1) ∈ strictIds rows := by
  refine ⟨⟨fun h => ?_, fun h => by rw [h]⟩, List.mem_map.mpr ⟨a, ha, rfl⟩⟩
  exact idxOf_inj ((mem_distinct _ _).mpr (List.mem_map.mpr ⟨a, ha, rfl⟩))
    ((mem_distinct _ _).mpr (List.mem_map.mpr ⟨b, hb, rfl⟩)) (Nat.add_right_cancel h)

end Verif.Partial
