import Verif.Lemmas.Optimal
import Verif.Model.EditDist
/-!
# C03 — the edit distance is the Levenshtein distance

`editDist` (the model of `_malign.edit_dist`) equals the minimum, over **all** edit scripts
(alignments) of the pair, of the number of insertions, deletions and substitutions.
-/
namespace Verif.Align
variable {α : Type} [DecidableEq α]

theorem rescore_edit (a b : List α) (ms : List Mv) :
    ∀ (i j : Nat) (c : Cell Nat),
      (rescore (editKernel a b) ⟨i, j, c⟩ ms).cur.1 = c.1 + editCost a b ms i j := by
  induction ms with
  | nil => intro i j c; simp [rescore, editCost]
  | cons m ms ih =>
    intro i j c
    rw [rescore_cons]
    -- a gap step adds one on the border and off it (hence `ite_self`), a match step the substitution cost
    cases m with
    | up =>
      simp only [rsStep, editCost]
      rw [ih]
      simp only [editKernel, ite_self]
      omega
    | left =>
      simp only [rsStep, editCost]
      rw [ih]
      simp only [editKernel, ite_self]
      omega
    | diag =>
      simp only [rsStep, editCost]
      rw [ih]
      simp only [editKernel, subCost, Nat.add_sub_cancel]
      omega

theorem editKernel_mono (a b : List α) : MonoR (· ≥ ·) (editKernel a b) where
  up := by intro i j c c' h; simp only [editKernel]; omega
  left := by intro i j c c' h; simp only [editKernel]; omega
  diag := by intro i j v v' h; simp only [editKernel]; omega
  row0 := by intro j c c' h; simp only [editKernel]; omega
  col0 := by intro i c c' h; simp only [editKernel]; omega
  choose := by
    intro x m y
    simp only [editKernel]
    split
    · rename_i h; simp only; omega
    · split <;> (simp only; omega)

theorem editKernel_chooseOk (a b : List α) : ChooseOkG (editKernel a b) := by
  intro x m y
  simp only [editKernel]
  split
  · exact Or.inl rfl
  · split
    · exact Or.inr (Or.inl rfl)
    · exact Or.inr (Or.inr rfl)

theorem editDist_eq_T (a b : List α) :
    editDist a b = (T (editKernel a b).toFill a.length b.length a.length).1 := by
  simp [editDist, getCell_eq_T]

/-- **C03: edit distance = Levenshtein distance** (minimum over all edit scripts).  The recursive `lev` of
`Model/EditDist.lean` is an executable cross-check only: no theorem mentions it. -/
theorem C03_edit_eq_lev (a b : List α) :
    (∀ ms, IsPath b.length a.length ms → editDist a b ≤ editCost a b ms 0 0) ∧
    (∃ ms, IsPath b.length a.length ms ∧ editCost a b ms 0 0 = editDist a b) := by
  obtain ⟨hub, cols, -, hp, h2⟩ := kernel_opt (· ≥ ·) Nat.le_refl (fun _ _ _ h1 h2 => Nat.le_trans h2 h1)
    (editKernel a b) (editKernel_chooseOk a b) (editKernel_mono a b)
    (by intro j c; simp [editKernel]) (by intro i c; simp [editKernel]) a b _ (fun _ _ _ _ => rfl)
  have hc : ∀ ms, (rescore (editKernel a b) ⟨0, 0, (editKernel a b).corner⟩ ms).cur.1 = editCost a b ms 0 0 := by
    intro ms; rw [rescore_edit]; exact Nat.zero_add _
  rw [editDist_eq_T]
  exact ⟨fun ms hp => hc ms ▸ hub ms hp, movesOf cols, hp, by rw [← hc, h2]⟩

end Verif.Align
