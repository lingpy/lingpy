import Verif.Model.Cell
/-!
# C13 — cell round trip through the TSV format

`parse τ (ser v) = v` whenever the column's namespace tag matches the kind of value stored in
it; and for an integer stored in an untyped (string) column the value does **not** come back
(this is the defect class the generated obligation `RoundTripTyped` guards against).
-/
namespace Verif.Cell

theorem allNum_map (l : List Int) : allNum (l.map .num) = some l := by
  induction l with
  | nil => rfl
  | cons n r ih => simp [allNum, ih]

theorem allFlt_map (l : List Nat) : allFlt (l.map .flt) = some l := by
  induction l with
  | nil => rfl
  | cons n r ih => simp [allFlt, ih]

/-- **C13, cell round trip**. -/
theorem C13_cell (τ : Tag) (v : Val) (h : kindOk τ v = true) : parse τ (ser v) = v := by
  cases τ <;> cases v <;> simp [kindOk] at h <;> simp [parse, ser, allNum_map, allFlt_map]

/-- an integer (or list) stored in a column that has no type in the namespace comes back as text -/
theorem C13_untyped_loses_type (n : Int) : parse .str (ser (.int n)) ≠ .int n := by
  simp [parse, ser]

theorem C13_untyped_loses_list (l : List Int) : parse .str (ser (.ints l)) ≠ .ints l := by
  simp [parse, ser]

theorem C13_row (cols : List (Tag × Val)) (h : ∀ p ∈ cols, kindOk p.1 p.2 = true) :
    cols.map (fun p => parse p.1 (ser p.2)) = cols.map (·.2) := by
  apply List.map_congr_left
  intro p hp
  exact C13_cell p.1 p.2 (h p hp)

end Verif.Cell
