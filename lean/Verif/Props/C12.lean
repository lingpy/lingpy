import Verif.Model.Wordlist
import Verif.Lemmas.ListFacts
/-!
# C12 — all views of a wordlist describe the same rows;  C17 — distances and patterns

`cols` is any enumeration of the languages: no theorem needs it sorted or duplicate-free.
-/
namespace Verif.WL

def cellAt (b : List (List Nat)) (i j : Nat) : Option Nat := b[i]?.bind fun r => r[j]?

theorem mem_cells (b : List (List Nat)) (v : Nat) : v ∈ b.flatMap id ↔ ∃ i j, cellAt b i j = some v := by
  rw [List.mem_flatMap]
  simp only [id, cellAt, Option.bind_eq_some_iff, List.mem_iff_getElem?]
  exact ⟨fun ⟨row, ⟨i, hi⟩, j, hj⟩ => ⟨i, j, row, hi, hj⟩,
    fun ⟨i, j, row, hi, hj⟩ => ⟨row, ⟨i, hi⟩, j, hj⟩⟩

theorem mem_keyOrder (xs : List Nat) (x : Nat) : x ∈ keyOrder xs ↔ x ∈ xs := by
  simpa only [keyOrder, List.contains_iff_mem, List.not_mem_nil, false_or] using mem_foldl_firstOcc xs [] x

theorem keyOrder_nodup (xs : List Nat) : (keyOrder xs).Nodup := by
  simpa only [keyOrder, List.contains_iff_mem] using nodup_foldl_firstOcc xs [] List.nodup_nil

/-- `etymdict`, `dictOfRow` and `dictOfCol` are all of this form -/
theorem mem_keyed {β : Type} (ks : List Nat) (f : Nat → β) (k : Nat) (v : β) :
    (k, v) ∈ (keyOrder ks).map (fun k => (k, f k)) ↔ k ∈ ks ∧ v = f k := by
  simp only [List.mem_map, mem_keyOrder, Prod.mk.injEq]
  constructor
  · rintro ⟨k', h, rfl, rfl⟩; exact ⟨h, rfl⟩
  · rintro ⟨h, rfl⟩; exact ⟨k, h, rfl, rfl⟩

theorem keyed_keys_nodup {β : Type} (ks : List Nat) (f : Nat → β) :
    (((keyOrder ks).map fun k => (k, f k)).map (·.1)).Nodup := by
  rw [List.map_map, show ((·.1) ∘ fun k => (k, f k)) = id from rfl, List.map_id]
  exact keyOrder_nodup ks

theorem mem_ids_filter (rows : List Row) (p : Row → Bool) (v : Nat) :
    v ∈ (rows.filter p).map (·.id) ↔ ∃ r ∈ rows, r.id = v ∧ p r = true := by
  simp only [List.mem_map, List.mem_filter]
  exact ⟨fun ⟨r, ⟨hr, hp⟩, e⟩ => ⟨r, hr, e, hp⟩,
    fun ⟨r, hr, e, hp⟩ => ⟨r, ⟨hr, hp⟩, e⟩⟩

theorem mem_idsOf (rows : List Row) (c l v : Nat) :
    v ∈ idsOf rows c l ↔ ∃ r ∈ rows, r.id = v ∧ r.concept = c ∧ r.lang = l := by
  simp only [idsOf, mem_ids_filter, Bool.and_eq_true, beq_iff_eq]

theorem concept_mem (rows : List Row) (r : Row) (hr : r ∈ rows) : r.concept ∈ concepts rows := by
  simp only [concepts, mem_keyOrder, List.mem_map]; exact ⟨r, hr, rfl⟩

theorem idsOf_length_le (rows : List Row) (cols : List Nat) (c l : Nat) (hl : l ∈ cols) :
    (idsOf rows c l).length ≤ maxLen rows cols c := by
  rw [maxLen, List.foldl_max]
  exact Nat.le_trans (List.le_max?_getD_of_mem (List.mem_map.mpr ⟨l, hl, rfl⟩)) (Nat.le_max_right _ _)

/-- Every view of the table rests on this: within the block of concept `c` the column of language `l` is `idsOf rows c l`
padded with zeros to the height of the block (as lists: `block_column`). -/
theorem cellAt_block (rows : List Row) (cols : List Nat) (c i j v : Nat) :
    cellAt (block rows cols c) i j = some v ↔
      i < maxLen rows cols c ∧ ∃ l, cols[j]? = some l ∧ (idsOf rows c l)[i]?.getD 0 = v := by
  by_cases hi : i < maxLen rows cols c <;> simp [cellAt, block, hi]

/-- **C12, soundness of the table**: a non-zero cell in the block of concept `c`, column `j`,
is the id of a row with concept `c` and language `cols[j]`. -/
theorem C12_array_sound (rows : List Row) (cols : List Nat) (c i j v : Nat)
    (h : cellAt (block rows cols c) i j = some v) (hv : v ≠ 0) :
    ∃ r ∈ rows, r.id = v ∧ r.concept = c ∧ cols[j]? = some r.lang := by
  obtain ⟨_, l, hj, he⟩ := (cellAt_block rows cols c i j v).mp h
  have hm : v ∈ idsOf rows c l := by
    cases hg : (idsOf rows c l)[i]? with
    | none => rw [hg] at he; exact absurd he.symm hv
    | some w => rw [hg] at he; exact he ▸ List.mem_of_getElem? hg
  obtain ⟨r, hr, h1, h2, h3⟩ := (mem_idsOf rows c l v).mp hm
  exact ⟨r, hr, h1, h2, h3 ▸ hj⟩

/-- **C12, completeness of the table**: every row appears in the block of its concept, in the
column of its language. -/
theorem C12_array_complete (rows : List Row) (cols : List Nat) (r : Row) (hr : r ∈ rows)
    (j : Nat) (hj : cols[j]? = some r.lang) :
    r.concept ∈ concepts rows ∧
    ∃ i, cellAt (block rows cols r.concept) i j = some r.id := by
  obtain ⟨i, hi, he⟩ := List.getElem_of_mem ((mem_idsOf rows _ _ _).mpr ⟨r, hr, rfl, rfl, rfl⟩)
  have hlt := Nat.lt_of_lt_of_le hi (idsOf_length_le rows cols _ _ (List.mem_of_getElem? hj))
  refine ⟨concept_mem rows r hr, i, (cellAt_block ..).mpr ⟨hlt, r.lang, hj, ?_⟩⟩
  simp [List.getElem?_eq_getElem hi, he]

/-- **C12, `get_list(row=c, flat=True)`**: exactly the non-zero ids of the rows of concept `c` whose
language is a column. -/
theorem C12_listOfRow (rows : List Row) (cols : List Nat) (c v : Nat) :
    v ∈ listOfRow rows cols c ↔ v ≠ 0 ∧ ∃ r ∈ rows, r.id = v ∧ r.concept = c ∧ r.lang ∈ cols := by
  simp only [listOfRow, List.mem_filter, bne_iff_ne, ne_eq, mem_cells]
  constructor
  · rintro ⟨⟨i, j, h⟩, hv⟩
    obtain ⟨r, hr, h1, h2, h3⟩ := C12_array_sound rows cols c i j v h hv
    exact ⟨hv, r, hr, h1, h2, List.mem_of_getElem? h3⟩
  · rintro ⟨hv, r, hr, rfl, rfl, hl⟩
    obtain ⟨j, hj⟩ := List.getElem?_of_mem hl
    obtain ⟨_, i, hi⟩ := C12_array_complete rows cols r hr j hj
    exact ⟨⟨i, j, hi⟩, hv⟩

theorem idxOf?_getElem (cols : List Nat) (l j : Nat) (h : cols.idxOf? l = some j) : cols[j]? = some l := by
  obtain ⟨hj, he, _⟩ := List.idxOf?_eq_some_iff.mp h
  rw [List.getElem?_eq_getElem hj, he]

theorem block_column (rows : List Row) (cols : List Nat) (c j l : Nat) (hj : cols[j]? = some l) :
    (block rows cols c).map (·.getD j 0) =
      idsOf rows c l ++ List.replicate (maxLen rows cols c - (idsOf rows c l).length) 0 := by
  rw [← map_getD_range_of_le 0 _ (idsOf_length_le rows cols c l (List.mem_of_getElem? hj))]
  simp [block, List.getD_eq_getElem?_getD, List.getElem?_map, hj]

theorem listOfCol_eq (rows : List Row) (cols : List Nat) (l j : Nat) (hj : cols.idxOf? l = some j) :
    listOfCol rows cols l = (concepts rows).flatMap fun c => (idsOf rows c l).filter (· != 0) := by
  simp only [listOfCol, hj, array, arrayBlocks, List.flatMap_map, List.map_flatMap, List.filter_flatMap,
    block_column rows cols _ j l (idxOf?_getElem cols l j hj), List.filter_append, List.filter_replicate]
  simp

/-- **C12, `get_list(col=l, flat=True)`**: exactly the non-zero ids of the rows of language `l`. -/
theorem C12_listOfCol (rows : List Row) (cols : List Nat) (l j v : Nat) (hj : cols.idxOf? l = some j) :
    v ∈ listOfCol rows cols l ↔ v ≠ 0 ∧ ∃ r ∈ rows, r.id = v ∧ r.lang = l := by
  simp only [listOfCol_eq rows cols l j hj, List.mem_flatMap, List.mem_filter, mem_idsOf, bne_iff_ne, ne_eq]
  constructor
  · rintro ⟨c, _, ⟨r, hr, h1, _, h3⟩, hv⟩; exact ⟨hv, r, hr, h1, h3⟩
  · rintro ⟨hv, r, hr, h1, h3⟩; exact ⟨r.concept, concept_mem rows r hr, ⟨r, hr, h1, rfl, h3⟩, hv⟩

/-- **C12, etymological dictionary**: a row id stands in slot `j` of cognate id `g` iff the
row carries `g` and its language is `cols[j]`. -/
theorem C12_etymdict (rows : List Row) (cols : List Nat) (g : Nat) (slots : List (List Nat))
    (h : (g, slots) ∈ etymdict rows cols) (j l v : Nat) (hj : cols[j]? = some l) :
    (∃ s, slots[j]? = some s ∧ v ∈ s) ↔ ∃ r ∈ rows, r.id = v ∧ g ∈ r.cogs ∧ r.lang = l := by
  obtain ⟨_, rfl⟩ := (mem_keyed _ _ g slots).mp h
  simp only [List.getElem?_map, hj, Option.map_some, Option.some.injEq, exists_eq_left', mem_ids_filter,
    Bool.and_eq_true, beq_iff_eq, List.contains_iff_mem]

theorem C12_etymdict_keys (rows : List Row) (cols : List Nat) (r : Row) (hr : r ∈ rows) (g : Nat)
    (hg : g ∈ r.cogs) : ∃ slots, (g, slots) ∈ etymdict rows cols := by
  exact ⟨_, (mem_keyed _ _ g _).mpr ⟨List.mem_flatMap.mpr ⟨r, hr, hg⟩, rfl⟩⟩

/-- **C12, renumber**: injective and positive (empty ↦ 0), for every list that contains the values, whatever its order -/
theorem C12_renumber (sources : List Nat) (x y : Nat)
    (hx : x ∈ sources) (hy : y ∈ sources) :
    (renumber sources x = renumber sources y ↔ x = y) ∧ (x ≠ 0 → 0 < renumber sources x) ∧
      renumber sources 0 = 0 := by
  refine ⟨⟨fun h => ?_, fun h => h ▸ rfl⟩, fun hx0 => by simp [renumber, hx0], by simp [renumber]⟩
  unfold renumber at h
  by_cases hx0 : x = 0 <;> by_cases hy0 : y = 0 <;> simp only [hx0, hy0, if_true, if_false] at h
  · rw [hx0, hy0]
  · omega
  · omega
  · exact idxOf_inj hx hy (by omega)

/-- **C17, range**: shared concepts are among those both languages attest, so the distance
`1 − shared/denominator` lies in `[0, 1]` (the code returns 1.0 when the denominator is 0). -/
theorem C17_dst_range (rows : List Row) (im : Bool) (a b : Nat) :
    (dstCounts rows im a b).1 ≤ (dstCounts rows im a b).2 := by
  simp only [dstCounts]
  split
  · exact Nat.le_trans (List.length_filter_le _ _) (List.length_filter_le _ _)
  · exact List.length_filter_le _ _

theorem any_contains_comm (A B : List Nat) : (A.any fun k => B.contains k) = (B.any fun k => A.contains k) := by
  rw [Bool.eq_iff_iff]
  simp only [List.any_eq_true, List.contains_iff_mem]
  exact ⟨fun ⟨k, h1, h2⟩ => ⟨k, h2, h1⟩, fun ⟨k, h1, h2⟩ => ⟨k, h2, h1⟩⟩

/-- **C17, symmetry** of the shared-cognate counts. -/
theorem C17_dst_symm (rows : List Row) (im : Bool) (a b : Nat) :
    dstCounts rows im a b = dstCounts rows im b a := by
  have hboth (c : Nat) := Bool.and_comm (rows.any fun r => r.lang == a && r.concept == c)
    (rows.any fun r => r.lang == b && r.concept == c)
  have hshared (c : Nat) := any_contains_comm ((rows.filter fun r => r.lang == a && r.concept == c).flatMap (·.cogs))
    ((rows.filter fun r => r.lang == b && r.concept == c).flatMap (·.cogs))
  simp only [dstCounts, hboth, hshared]

/-- zero diagonal: with itself a language shares every concept it attests -/
theorem C17_dst_self (rows : List Row) (a : Nat) (hc : ∀ r ∈ rows, r.cogs ≠ []) :
    (dstCounts rows false a a).1 = (dstCounts rows false a a).2 := by
  simp only [dstCounts, Bool.false_eq_true, if_false]
  congr 1
  apply List.filter_eq_self.mpr
  intro c hcm
  simp only [List.mem_filter, Bool.and_self, List.any_eq_true, Bool.and_eq_true, beq_iff_eq] at hcm
  obtain ⟨_, r, hr, hl, hcc⟩ := hcm
  obtain ⟨k, hk⟩ := List.exists_mem_of_ne_nil _ (hc r hr)
  simp only [List.any_eq_true, List.contains_iff_mem, List.mem_flatMap, List.mem_filter, Bool.and_eq_true,
    beq_iff_eq]
  exact ⟨k, ⟨r, ⟨hr, hl, hcc⟩, hk⟩, ⟨r, ⟨hr, hl, hcc⟩, hk⟩⟩

/-- **C17, presence/absence coding** for a cognate set that lies within one concept `c`:
present iff the language has a word in the set; otherwise missing iff it has no word for
`c` at all; otherwise absent. -/
theorem C17_paps (rows : List Row) (cols : List Nat) (m : Int) (g c : Nat)
    (hc : keyOrder ((rows.filter fun r => r.cogs.contains g).map (·.concept)) = [c]) (j l : Nat)
    (hj : cols[j]? = some l) :
    (papOf rows cols m g)[j]? = some
      (if (rows.any fun r => r.cogs.contains g && r.lang == l) then 1
       else if (idsOf rows c l).isEmpty then m else 0) := by
  simp only [papOf, hc, List.getElem?_map, hj, Option.map_some, List.any_filter]

/-- cognate sets spanning several concepts (hand-made ids): the code answers 1 everywhere -/
theorem C17_paps_multi (rows : List Row) (cols : List Nat) (m : Int) (g c c' : Nat) (cs : List Nat)
    (hc : keyOrder ((rows.filter fun r => r.cogs.contains g).map (·.concept)) = c :: c' :: cs) :
    ∀ v ∈ papOf rows cols m g, v = 1 := by
  intro v hv
  simp only [papOf, hc, List.mem_map] at hv
  obtain ⟨l, _, rfl⟩ := hv
  split <;> rfl

end Verif.WL
