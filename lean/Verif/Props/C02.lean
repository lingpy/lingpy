import Verif.Lemmas.Rescore
import Verif.Lemmas.Run
/-!
# C02 — the reported alignment score is the score of the returned alignment

`rescore` reads the returned columns left to right and applies the scoring scheme's step
functions; it never looks at the DP matrices.  The theorems hold for every member of the
kernel family (global / overlap / local × primary / secondary × `_calign`/`_talign`/`_malign`
flavour × all tie rules) and every score carrier — no law about `+`, `*`, `≤` is used, so
they hold literally for IEEE doubles.  dialign is excluded by the property itself.
-/
namespace Verif.Align
open ScoreOps
variable {S : Type} [ScoreOps S]

/-- The similarity the scheme assigns to a list of returned columns (global / overlap). -/
def rescoreCols (cfg : Cfg) (inp : Input S) (cols : List (Col Nat)) : S :=
  (rescore (kernelOf cfg inp) ⟨0, 0, (kernelOf cfg inp).corner⟩ (movesOf cols)).cur.1

/-- … and to the aligned part of a local alignment whose prefixes have lengths `j0`, `i0`. -/
def rescoreLocal (cfg : Cfg) (inp : Input S) (i0 j0 : Nat) (cols : List (Col Nat)) : S :=
  (rescore (kernelOf cfg inp) ⟨i0, j0, (zero, 0)⟩ (movesOf cols)).cur.1

variable [Inhabited S]

/-- **C02, global and overlap mode.** -/
theorem C02_score (cfg : Cfg) (inp : Input S) (h : cfg.mode = .global ∨ cfg.mode = .overlap)
    (ha : inp.a ≠ []) (hb : inp.b ≠ []) :
    ∃ cols sim, run cfg inp = .glob cols sim ∧ sim = rescoreCols cfg inp cols := by
  have hl : cfg.mode ≠ .local := by rcases h with h | h <;> simp [h]
  have hd : cfg.mode ≠ .dialign := by rcases h with h | h <;> simp [h]
  obtain ⟨hrow, hcol⟩ := kernel_border_moves cfg inp hl
  obtain ⟨cols, h1, h2⟩ :=
    rescore_tbGlobal (kernelOf cfg inp) (kernel_chooseOkG cfg inp hl) hrow hcol inp.a inp.b inp.N inp.M
      (Nat.le_refl _) (Nat.le_refl _) _ (moveTab_aff cfg inp hd) inp.N inp.M [] (Nat.le_refl _) (Nat.le_refl _)
  rw [List.append_nil] at h1
  exact ⟨cols, _, by rw [run_glob cfg inp hl ha hb, h1], by rw [rescoreCols, h2, fillOf_aff cfg inp hd]⟩

/-- **C02, local mode.** -/
theorem C02_score_local (cfg : Cfg) (inp : Input S) (h : cfg.mode = .local)
    (i0 j0 k l : Nat) (cols : List (Col Nat)) (sim : S)
    (hr : run cfg inp = .loc i0 j0 k l cols sim) :
    sim = rescoreLocal cfg inp i0 j0 cols := by
  have hd : cfg.mode ≠ .dialign := by simp [h]
  obtain ⟨_, _, hk, hl, htb, rfl⟩ := run_loc cfg inp h hr
  obtain ⟨i1, j1, cs, h1, h2⟩ :=
    rescore_tbLocal (kernelOf cfg inp) (kernel_chooseOkL cfg inp h) (kernel_local_corner cfg inp h)
      (kernel_local_row0 cfg inp h) (kernel_local_col0 cfg inp h) inp.a inp.b inp.N inp.M (Nat.le_refl _) (Nat.le_refl _)
      _ (moveTab_aff cfg inp hd) k l [] hk hl
  rw [List.append_nil] at h1
  obtain ⟨rfl, rfl, rfl⟩ : i1 = i0 ∧ j1 = j0 ∧ cs = cols := by simpa using h1.symm.trans htb
  rw [rescoreLocal, h2, fillOf_aff cfg inp hd]

/-- **C02, normalised distance**: it is `1 - 2·sim/(self A + self B)` of the *same* similarity
that is returned with (and, by the theorems above, re-scored from) the alignment. -/
theorem C02_distance (cfg : Cfg) (inp : Input S) (s d : S) (h : runDist cfg inp = some (s, d)) :
    (run cfg inp).sim? = some s ∧
      d = sub one (div (mul (add one one) s) (add (selfScore cfg inp inp.a) (selfScore cfg inp inp.b))) := by
  unfold runDist at h
  cases hs : (run cfg inp).sim? with
  | none => simp [hs] at h
  | some s' =>
    simp only [hs, Option.map_some, Option.some.injEq, Prod.mk.injEq] at h
    obtain ⟨rfl, rfl⟩ := h
    exact ⟨rfl, rfl⟩

/-! ### Non-vacuity: a concrete run over `Int` (scores ×1) meets the hypotheses. -/
def exInp : Input Int where
  a := [0, 1, 0]
  b := [1, 0]
  gopA := [-2, -2, -2]
  gopB := [-2, -2]
  proA := [65, 88, 65]
  proB := [88, 65]
  scale := 1
  factor := 0
  scorer := fun x y => if x = y then 3 else -1
  r := []
def exCfg : Cfg := ⟨.global, false, 0, true, true, true, true, true, false⟩

example : ∃ cols sim, run exCfg exInp = .glob cols sim ∧ sim = rescoreCols exCfg exInp cols :=
  C02_score exCfg exInp (Or.inl rfl) (by decide) (by decide)
example : rescoreCols exCfg exInp [(some 0, none), (some 1, some 1), (some 0, some 0)] = 4 := by decide

end Verif.Align
