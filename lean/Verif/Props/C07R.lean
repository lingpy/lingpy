import Verif.Props.C07
/-!
# C07 — the candidate scenarios of `PhyBo._get_GLS` (restriction / internal weighted mode) replay to the pattern

`candsR_sound`: every candidate that the bottom-up combination of `_get_GLS` can build – before any
filtering by restriction value, weight or gains per lineage – is sound.  The one difference to `get_gls`,
events also on children whose leaves are all missing, is another choice of the event selector of
`sound_flip`: an undetermined child is compatible with any state it is given.
-/
namespace Verif.GL

theorem combineR_sound (pat : Nat → Int) (n : Nat) (ch : Ch)
    (hnd : (ch.flatMap fun p => nodeNames p.1).Nodup) (hS : ∀ p ∈ ch, Sound pat p.2 p.1)
    (c : Cand) (hc : c ∈ combineR (ch.map (·.1.name)) (ch.map (·.2))) :
    Sound pat c (.node n (ch.map (·.1))) := by
  have hstories : (ch.map (·.2)).flatMap (·.2) = chStory ch := by simp [chStory, List.flatMap_map]
  rcases combineR_spec (ch.map (·.1.name)) (ch.map (·.2)) with ⟨s, e, _, huni⟩ | e
  · rw [e, hstories, List.mem_singleton] at hc; subst hc
    exact sound_uniform pat n ch hnd hS s fun p hp => huni p.2 (List.mem_map_of_mem hp)
  · rw [e, hstories, List.map_map, List.map_map] at hc
    simp only [Function.comp_def, zip_events ch (fun s => if s = -1 then 1 else s) 1,
      zip_events ch (fun s => if s = -1 then 0 else s) 0] at hc
    rcases mem_pair.mp hc with rfl | rfl
    · exact sound_flip pat n ch hnd hS (s := 0) (v := 1) (Or.inr ⟨rfl, rfl⟩)
        (sel := fun s => (if s = -1 then 1 else s) == 1) rfl rfl
    · exact sound_flip pat n ch hnd hS (s := 1) (v := 0) (Or.inl ⟨rfl, rfl⟩)
        (sel := fun s => (if s = -1 then 0 else s) == 0) rfl rfl

theorem combineR_state (names : List Nat) (combo : List Cand) : ∀ c ∈ combineR names combo, StateOk c.1 := by
  intro c hc
  rcases combineR_spec names combo with ⟨s, e, hs, _⟩ | e <;> rw [e] at hc
  · rw [List.mem_singleton.mp hc]; exact hs
  · rcases mem_pair.mp hc with rfl | rfl
    · exact Or.inr (Or.inl rfl)
    · exact Or.inl rfl

-- the second conjunct is used by nothing below
theorem candsR_sound (pat : Nat → Int) (hpat : ∀ n, pat n = 1 ∨ pat n = 0 ∨ pat n = -1) :
    ∀ (t : GTree), (nodeNames t).Nodup → ∀ c ∈ candsR pat t, Sound pat c t ∧ StateOk c.1 := by
  intro t
  induction t using GTree.induct with
  | leaf n =>
    intro _ c hc
    have e : c = (pat n, []) := by simpa only [candsR, List.mem_singleton] using hc
    exact e ▸ ⟨sound_leaf pat hpat n, hpat n⟩
  | node n cs ih =>
    intro hnd c hc
    obtain ⟨combo, hcombo, hcc⟩ := List.mem_flatMap.mp hc
    rw [candsRL_eq] at hcombo
    obtain ⟨ch, rfl, rfl, hmem⟩ := ch_of_mem_product _ cs combo hcombo
    have hndch := nodup_ch n ch hnd
    exact ⟨combineR_sound pat n ch hndch
      (fun p hp => (ih p.1 (List.mem_map_of_mem hp) ((nodup_flatMap hndch).1 p hp) p.2 (hmem p hp)).1) c
      (by simpa only [List.map_map, Function.comp_def] using hcc), combineR_state _ _ c hcc⟩

/-- **C07 (restriction and internal weighted mode)**: any of the root scenarios – and therefore whatever
the routine selects among them by restriction value, weight, gains per lineage, minimal gains or tip
counts – replays to the pattern and names only nodes of the tree. -/
theorem C07_restriction (pat : Nat → Int) (hpat : ∀ n, pat n = 1 ∨ pat n = 0 ∨ pat n = -1)
    (t : GTree) (hnd : (nodeNames t).Nodup) (story : Story) (h : story ∈ rootCandsR pat t) :
    Good pat (replay story t) ∧ ∀ p ∈ story, p.1 ∈ nodeNames t := by
  simp only [rootCandsR, List.mem_map] at h
  obtain ⟨c, hc, rfl⟩ := h
  refine sound_root pat t hnd c (candsR_sound pat hpat t hnd c hc).1 _ fun x => ?_
  by_cases h1 : c.1 = 1 <;> simp [h1, or_comm]

end Verif.GL
