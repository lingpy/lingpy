import Verif.Model.Turchin
import Verif.Props.C06Avg
/-!
# C06 — the consonant-class method closed: its distance IS an equivalence at every threshold `0 ≤ t < 1`, so every
linkage returns exactly the classes of equal keys (no hypothesis left about the matrix).  The carrier is `Int`, where
`0 ≤ t < 1` is the one threshold 0.
-/
namespace Verif.Turchin
open Verif.Cluster Verif.Align

variable (isVowel : Nat → Bool) (h : Nat)

theorem dist_le_iff (a b : List Nat) (t : Int) (h0 : 0 ≤ t) (h1 : t < 1) :
    dist isVowel h a b ≤ t ↔ key isVowel h a = key isVowel h b := by
  unfold dist
  by_cases hk : key isVowel h a = key isVowel h b
  · simp [hk, h0]
  · have : (key isVowel h a != key isVowel h b) = true := by simpa using hk
    simp only [this, if_true, hk, iff_false]
    omega

theorem dist_self (a : List Nat) : dist isVowel h a a = 0 := by simp [dist]

theorem dist_symm (a b : List Nat) : dist isVowel h a b = dist isVowel h b a := by
  unfold dist
  rw [bne_comm]

theorem dist_range (a b : List Nat) : dist isVowel h a b = 0 ∨ dist isVowel h a b = 1 := by
  unfold dist; split <;> simp

theorem mid_int (link : Link) (M : Nat → Nat → Int) (t : Int) : Mid link M t := by
  cases link
  exacts [mid_single M t, mid_complete M t, mid_average M t (meanLe_int t) (meanGt_int t)]

/-- the three theorems below at once: "distance `≤ t`" is the equivalence "same key", whatever the linkage -/
theorem turchin_classes (cfg : Cluster.Cfg) (hu : cfg.unordered = false)
    (w : Nat → List Nat) (t : Int) (h0 : 0 ≤ t) (h1 : t < 1) (n : Nat) :
    let M := fun x y => dist isVowel h (w x) (w y)
    (∀ c ∈ flatCluster cfg M t n, ∀ x ∈ c.2, ∀ y ∈ c.2, key isVowel h (w x) = key isVowel h (w y)) ∧
    (∀ p q (hp : p < (flatCluster cfg M t n).length) (hq : q < (flatCluster cfg M t n).length), p ≠ q →
      ∀ x ∈ (flatCluster cfg M t n)[p].2, ∀ y ∈ (flatCluster cfg M t n)[q].2,
        key isVowel h (w x) ≠ key isVowel h (w y)) := by
  intro M
  have hiff : ∀ x y, M x y ≤ t ↔ key isVowel h (w x) = key isVowel h (w y) :=
    fun x y => dist_le_iff isVowel h (w x) (w y) t h0 h1
  obtain ⟨a1, a2⟩ := classes_of_mid cfg hu M t n (mid_int cfg.link M t)
    (fun x y hxy => (hiff y x).mpr ((hiff x y).mp hxy).symm)
    (fun x y z hxy hyz => (hiff x z).mpr (((hiff x y).mp hxy).trans ((hiff y z).mp hyz)))
  refine ⟨fun c hc x hx y hy => ?_, fun p q hp hq hne x hx y hy hk => a2 p q hp hq hne x hx y hy ((hiff x y).mpr hk)⟩
  rcases eq_or_ne x y with rfl | hne
  · rfl
  · exact (hiff x y).mp (a1 c hc x hx y hy hne)

-- `hl` is not used: every linkage gives the classes (`turchin_classes`)
set_option linter.unusedVariables false in
/-- **C06, consonant-class method, single linkage**, for the words `w 0 … w (n-1)` of a concept -/
theorem C06_turchin_single (cfg : Cluster.Cfg) (hl : cfg.link = .single) (hu : cfg.unordered = false)
    (w : Nat → List Nat) (t : Int) (h0 : 0 ≤ t) (h1 : t < 1) (n : Nat) :
    let M := fun x y => dist isVowel h (w x) (w y)
    (∀ c ∈ flatCluster cfg M t n, ∀ x ∈ c.2, ∀ y ∈ c.2, key isVowel h (w x) = key isVowel h (w y)) ∧
    (∀ p q (hp : p < (flatCluster cfg M t n).length) (hq : q < (flatCluster cfg M t n).length), p ≠ q →
      ∀ x ∈ (flatCluster cfg M t n)[p].2, ∀ y ∈ (flatCluster cfg M t n)[q].2,
        key isVowel h (w x) ≠ key isVowel h (w y)) :=
  turchin_classes isVowel h cfg hu w t h0 h1 n

set_option linter.unusedVariables false in
/-- **C06, consonant-class method, complete linkage**: the same classes -/
theorem C06_turchin_complete (cfg : Cluster.Cfg) (hl : cfg.link = .complete) (hu : cfg.unordered = false)
    (w : Nat → List Nat) (t : Int) (h0 : 0 ≤ t) (h1 : t < 1) (n : Nat) :
    let M := fun x y => dist isVowel h (w x) (w y)
    (∀ c ∈ flatCluster cfg M t n, ∀ x ∈ c.2, ∀ y ∈ c.2, key isVowel h (w x) = key isVowel h (w y)) ∧
    (∀ p q (hp : p < (flatCluster cfg M t n).length) (hq : q < (flatCluster cfg M t n).length), p ≠ q →
      ∀ x ∈ (flatCluster cfg M t n)[p].2, ∀ y ∈ (flatCluster cfg M t n)[q].2,
        key isVowel h (w x) ≠ key isVowel h (w y)) :=
  turchin_classes isVowel h cfg hu w t h0 h1 n

set_option linter.unusedVariables false in
/-- **C06, consonant-class method, average linkage** (the default of `LexStat.cluster`): the same classes; the two laws of the
mean at the threshold are those proved for the integers (`meanLe_int`, `meanGt_int`) – exact on a 0/1 matrix -/
theorem C06_turchin_average (cfg : Cluster.Cfg) (hl : cfg.link = .average) (hu : cfg.unordered = false)
    (w : Nat → List Nat) (t : Int) (h0 : 0 ≤ t) (h1 : t < 1) (n : Nat) :
    let M := fun x y => dist isVowel h (w x) (w y)
    (∀ c ∈ flatCluster cfg M t n, ∀ x ∈ c.2, ∀ y ∈ c.2, key isVowel h (w x) = key isVowel h (w y)) ∧
    (∀ p q (hp : p < (flatCluster cfg M t n).length) (hq : q < (flatCluster cfg M t n).length), p ≠ q →
      ∀ x ∈ (flatCluster cfg M t n)[p].2, ∀ y ∈ (flatCluster cfg M t n)[q].2,
        key isVowel h (w x) ≠ key isVowel h (w y)) :=
  turchin_classes isVowel h cfg hu w t h0 h1 n

/-- an initial vowel counts as `H` (code 8 here), later vowels are skipped, two classes make the key -/
example : key (· == 5) 8 [5, 1, 5, 2, 3] = [8, 1] ∧ key (· == 5) 8 [1, 5, 2] = [1, 2] ∧
    dist (· == 5) 8 [1, 5, 2, 9] [1, 2, 7] = 0 ∧ dist (· == 5) 8 [5, 1] [1, 5] = 1 := by decide

end Verif.Turchin
