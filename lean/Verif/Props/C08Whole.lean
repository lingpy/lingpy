import Verif.Props.C08
/-!
C08 at the level of the whole reference tree: the weight of the scenario returned by `get_gls`
is the cost of a consistent labeling of the WHOLE tree (not only of the analysed subtree below the
common ancestor of the presences).  Together with `C08_getGls` (lower bound against every
consistent labeling of the whole tree) this makes the returned weight the minimum.

A labeling of the subtree found by `lcaSub` extends to the whole tree at no cost, because every
present leaf lies inside that subtree (`lcaSub` only descends into a child that contains them all):
all other nodes are labelled "absent", which is consistent with absent and missing leaves and
produces no event.
-/

namespace Verif.GL

theorem costFrom_congr (w : Nat × Nat) (L L' : Nat → Int) (t : GTree) :
    ∀ σ : Int, (∀ k ∈ nodeNames t, L k = L' k) → costFrom w L σ t = costFrom w L' σ t := by
  induction t using GTree.induct with
  | leaf n => intro σ h; simp only [costFrom, labCost, name_leaf, h n (List.mem_singleton.mpr rfl)]
  | node n cs ih =>
    intro σ h
    simp only [costFrom, labCost, name_node, labCostL_sum, h n List.mem_cons_self]
    congr 2
    exact List.map_congr_left fun c hc => ih c hc _ fun k hk =>
      h k (List.mem_cons_of_mem _ (mem_nodeNamesL.mpr ⟨c, hc, hk⟩))

theorem labCostL_congr (w : Nat × Nat) (L L' : Nat → Int) :
    ∀ (ts : List GTree) (σ : Int), (∀ k ∈ nodeNamesL ts, L k = L' k) → labCostL w L σ ts = labCostL w L' σ ts := by
  intro ts σ h
  simp only [labCostL_sum]
  congr 1
  exact List.map_congr_left fun c hc => costFrom_congr w L L' c σ fun k hk => h k (mem_nodeNamesL.mpr ⟨c, hc, hk⟩)

theorem labCost_const (w : Nat × Nat) (L : Nat → Int) (v : Int) (t : GTree) :
    (∀ k ∈ nodeNames t, L k = v) → labCost w L t = 0 := by
  induction t using GTree.induct with
  | leaf n => exact fun _ => rfl
  | node n cs ih =>
    intro h
    simp only [labCost, labCostL_sum, h n List.mem_cons_self, List.sum_eq_zero_iff_forall_eq_nat, List.mem_map]
    rintro _ ⟨c, hc, rfl⟩
    have hc' : ∀ k ∈ nodeNames c, L k = v := fun k hk =>
      h k (List.mem_cons_of_mem _ (mem_nodeNamesL.mpr ⟨c, hc, hk⟩))
    simp [costFrom, edgeCost, hc' _ (name_mem_nodeNames c), ih c hc hc']

theorem labCostL_single (w : Nat × Nat) (L L1 : Nat → Int) (c : GTree) (cs : List GTree)
    (hnd : (nodeNamesL cs).Nodup) (hc : c ∈ cs)
    (hin : ∀ k ∈ nodeNames c, L1 k = L k) (hout : ∀ k ∈ nodeNamesL cs, k ∉ nodeNames c → L1 k = 0) :
    labCostL w L1 0 cs = costFrom w L 0 c := by
  obtain ⟨l₁, l₂, rfl⟩ := List.append_of_mem hc
  -- `c` may be taken to the front: neither the sum nor the distinctness of the names depends on the order
  have hp : (l₁ ++ c :: l₂).Perm (c :: (l₁ ++ l₂)) := List.perm_middle
  rw [nodeNamesL_eq] at hnd
  have hdis := (List.nodup_append.mp ((hp.flatMap_right nodeNames).nodup hnd)).2.2
  -- a sibling shares no name with `c`, so it is labelled absent throughout and costs nothing
  have hzero : ((l₁ ++ l₂).map (costFrom w L1 0)).sum = 0 :=
    List.sum_eq_zero_iff_forall_eq_nat.mpr <| List.forall_mem_map.mpr fun d hd => by
      have h0 : ∀ k ∈ nodeNames d, L1 k = 0 := fun k hk =>
        hout k (mem_nodeNamesL.mpr ⟨d, hp.symm.subset (List.mem_cons_of_mem _ hd), hk⟩)
          fun hkc => hdis k hkc k (List.mem_flatMap.mpr ⟨d, hd, hk⟩) rfl
      simp [costFrom, edgeCost, h0 _ (name_mem_nodeNames d), labCost_const w L1 0 d h0]
  rw [labCostL_sum, (hp.map _).sum_nat, List.map_cons, List.sum_cons, hzero, costFrom_congr w L1 L c 0 hin]
  rfl

theorem extend_to_parent (w : Nat × Nat) (pat : Nat → Int) (hpat : ∀ n, StateOk (pat n))
    (n : Nat) (cs : List GTree) (c : GTree) (hc : c ∈ cs)
    (hpres : ∀ k ∈ leafNamesL cs, pat k = 1 → k ∈ leafNames c) (hnd : (nodeNames (.node n cs)).Nodup)
    (L : Nat → Int) (hL : Labeling L) (hcons : Consistent pat L c) :
    ∃ L1, Labeling L1 ∧ Consistent pat L1 (.node n cs) ∧ costFrom w L1 0 (.node n cs) = costFrom w L 0 c := by
  simp only [nodeNames, List.nodup_cons] at hnd
  let L1 : Nat → Int := fun k => if k ∈ nodeNames c then L k else 0
  have hin : ∀ k ∈ nodeNames c, L1 k = L k := by intro k hk; simp [L1, hk]
  have hout : ∀ k, k ∉ nodeNames c → L1 k = 0 := by intro k hk; simp [L1, hk]
  refine ⟨L1, fun k => ?_, fun k hk hknown => ?_, ?_⟩
  · by_cases hk : k ∈ nodeNames c
    · rw [hin k hk]; exact hL k
    · rw [hout k hk]; exact Or.inl rfl
  · by_cases hkl : k ∈ leafNames c
    · rw [hin k (leaf_sub_node c k hkl)]; exact hcons k hkl hknown
    · -- a leaf of a sibling `d` is no node of `c` and is not present, so "absent" agrees with it
      obtain ⟨d, hd, hkd⟩ := mem_leafNamesL.mp hk
      have hkc : k ∉ nodeNames c := fun hkc =>
        hkl ((nodup_children hnd.2).2 d hd c hc k (leaf_sub_node d k hkd) hkc ▸ hkd)
      rw [hout k hkc]
      rcases hpat k with hp | hp | hp
      · exact absurd (hpres k hk hp) hkl
      · exact hp.symm
      · exact absurd hp hknown
  · have hn : L1 n = 0 := hout n fun hnc => hnd.1 (mem_nodeNamesL.mpr ⟨c, hc, hnc⟩)
    have hs := labCostL_single w L L1 c cs hnd.2 hc hin (fun k _ hkc => hout k hkc)
    simp only [costFrom, labCost, name_node, hn, hs]
    simp [edgeCost]

/-- the extension statement carried down the descent -/
def Ext (w : Nat × Nat) (pat : Nat → Int) (t s : GTree) : Prop :=
  ∀ L, Labeling L → Consistent pat L s →
    ∃ L', Labeling L' ∧ Consistent pat L' t ∧ costFrom w L' 0 t = costFrom w L 0 s

/-- **C08, whole tree, achievability** -/
theorem C08_getGls_achievable (cfg : Cfg) (md : Int) (t : GTree) (pat : List (Nat × Int))
    (hpat : ∀ n, StateOk (patOf md pat n)) (hnd : (nodeNames t).Nodup)
    (story : Story) (h : getGls cfg md t pat = some story) :
    ∃ L, Labeling L ∧ Consistent (patOf md pat) L t ∧ costFrom cfg.w L 0 t ≤ weightOf cfg.w story := by
  obtain ⟨sub, ⟨hndS, hextS⟩, h⟩ := getGls_spec cfg md t pat story h
    (fun s => (nodeNames s).Nodup ∧ Ext cfg.w (patOf md pat) t s)
    ⟨hnd, fun L hL hc => ⟨L, hL, hc, rfl⟩⟩
    (by
      intro n cs c hc hpres ⟨hndN, hextN⟩
      refine ⟨(nodup_children (List.nodup_cons.mp hndN).2).1 c hc, fun L hL hcons => ?_⟩
      obtain ⟨L1, hL1, hcons1, e1⟩ := extend_to_parent cfg.w (patOf md pat) hpat n cs c hc hpres hndN L hL hcons
      obtain ⟨L', hL', hcons', e'⟩ := hextN L1 hL1 hcons1
      exact ⟨L', hL', hcons', e'.trans e1⟩)
  rcases h with ⟨hall, rfl⟩ | h
  · -- all leaves present: label every node of the subtree present
    obtain ⟨L', hL', hcons', hcost'⟩ := hextS (fun _ => 1) (fun _ => Or.inr rfl) (fun k hk _ => (hall k hk).symm)
    refine ⟨L', hL', hcons', ?_⟩
    rw [hcost']
    simp [costFrom, labCost_const cfg.w (fun _ => (1 : Int)) 1 sub (fun _ _ => rfl), edgeCost, weightOf_cons,
      weightOf_nil]
  · obtain ⟨L, hL, hc, hcost⟩ := C08_achievable cfg (patOf md pat) hpat sub hndS story h
    obtain ⟨L', hL', hcons', hcost'⟩ := hextS L hL hc
    exact ⟨L', hL', hcons', by rw [hcost']; exact hcost⟩

/-- **C08 at the level of `get_gls`, whole tree**: with a limit that cannot bind, the weight of the
returned scenario IS the minimum cost over all consistent labelings of the whole reference tree. -/
theorem C08_getGls_minimum (cfg : Cfg) (hamf : cfg.allMissingFirst = true) (md : Int) (t : GTree) (pat : List (Nat × Int))
    (hpat : ∀ n, StateOk (patOf md pat n)) (hnd : (nodeNames t).Nodup) (hg : (nodeNames t).length ≤ cfg.gpl)
    (hp : proper t = true) (story : Story) (h : getGls cfg md t pat = some story) :
    (∃ L, Labeling L ∧ Consistent (patOf md pat) L t ∧ costFrom cfg.w L 0 t = weightOf cfg.w story) ∧
    ∀ L, Labeling L → Consistent (patOf md pat) L t → weightOf cfg.w story ≤ costFrom cfg.w L 0 t := by
  have hlow := C08_getGls cfg hamf md t pat hpat hg hp story h
  obtain ⟨L, h1, h2, h3⟩ := C08_getGls_achievable cfg md t pat hpat hnd story h
  exact ⟨⟨L, h1, h2, Nat.le_antisymm h3 (hlow L h1 h2)⟩, hlow⟩

/-! not vacuous: the example tree of `C08.lean` meets the hypotheses and `get_gls` answers on it -/
example : (nodeNames exTree).Nodup := by decide
example : ∃ L, Labeling L ∧ Consistent (patOf (-1) exPat) L exTree ∧ costFrom exCfg.w L 0 exTree = 2 := by
  have h := (C08_getGls_minimum exCfg rfl (-1) exTree exPat
    (patOf_stateOk (-1) (Or.inr rfl) exPat (by unfold StateOk exPat; decide)) (by decide) (by decide) (by decide)
    [(1, 1), (11, 1)] (by decide)).1
  simpa [weightOf, count, exCfg] using h

end Verif.GL
