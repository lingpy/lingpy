import Verif.Model.Cognates
import Verif.Props.C05
/-!
# C06 — cognate detection is per-concept clustering: the id bookkeeping

Every word gets exactly one id, ids of different concepts never coincide (each concept's ids
lie strictly above all ids handed out before), and within a concept two words share an id iff
they share a cluster label.  Needs of the labels only that they are ≥ 1 – which `C05_partition_revert`
proves of every reverted flat clustering – and of the input that every concept has a word (`WF`): an
empty concept would set the running maximum back to 0.
-/
namespace Verif.Cognates

/-- input per concept: `(words, labels)` -/
def WF (parts : List (List Nat × List Nat)) : Prop :=
  ∀ p ∈ parts, p.1.length = p.2.length ∧ (∀ l ∈ p.2, 1 ≤ l) ∧ p.1 ≠ []

/-- **C06, totality**: the words of every concept get exactly one id each, in order. -/
theorem C06_total (parts : List (List Nat × List Nat)) (hwf : WF parts) : ∀ k,
    (glue k parts).map (fun c => c.map (·.1)) = parts.map (·.1) := by
  induction parts with
  | nil => intro k; rfl
  | cons p rest ih =>
    intro k
    obtain ⟨idx, labs⟩ := p
    have h := hwf (idx, labs) List.mem_cons_self
    simp only [glue, List.map_cons]
    rw [ih (fun q hq => hwf q (List.mem_cons_of_mem _ hq))]
    congr 1
    rw [List.map_fst_zip]
    simp [h.1]

theorem glue_gt (parts : List (List Nat × List Nat)) (hwf : WF parts) : ∀ k,
    ∀ c ∈ glue k parts, ∀ e ∈ c, k < e.2 := by
  induction parts with
  | nil => intro k c hc; simp [glue] at hc
  | cons p rest ih =>
    intro k c hc e he
    obtain ⟨idx, labs⟩ := p
    have h := hwf (idx, labs) List.mem_cons_self
    simp only [glue, List.mem_cons] at hc
    rcases hc with rfl | hc
    · obtain ⟨l, hl, hle⟩ := List.mem_map.mp (List.of_mem_zip he).2
      exact hle ▸ Nat.lt_add_of_pos_left (h.2.1 l hl)
    · have hgt := ih (fun q hq => hwf q (List.mem_cons_of_mem _ hq)) _ c hc e he
      -- the new offset is at least `k`: the concept has a word, hence a label, and that one is shifted by `k`
      obtain ⟨l0, hl0⟩ := List.exists_mem_of_ne_nil labs fun hl => h.2.2 (List.length_eq_zero_iff.mp (hl ▸ h.1))
      have : l0 + k ≤ (labs.map (· + k)).foldl max 0 :=
        le_foldl_max (List.mem_map.mpr ⟨l0, hl0, rfl⟩)
      exact Nat.lt_of_le_of_lt (Nat.le_trans (Nat.le_add_left k l0) this) hgt

/-- **C06, no cross-concept sets**: an id of the first concept is smaller than every id of any
later concept – so ids of different concepts never coincide. -/
theorem C06_no_cross_concept (p : List Nat × List Nat) (rest : List (List Nat × List Nat))
    (hwf : WF (p :: rest)) (k : Nat) :
    ∀ e ∈ (glue k (p :: rest)).headD [], ∀ c ∈ (glue k (p :: rest)).tail, ∀ e' ∈ c, e.2 < e'.2 := by
  obtain ⟨idx, labs⟩ := p
  intro e he c hc e' he'
  simp only [glue, List.headD_cons, List.tail_cons] at he hc
  have h1 : e.2 ≤ (labs.map (· + k)).foldl max 0 :=
    le_foldl_max (List.of_mem_zip he).2
  exact Nat.lt_of_le_of_lt h1 (glue_gt rest (fun q hq => hwf q (List.mem_cons_of_mem _ hq)) _ c hc e' he')

/-- … and the same for every pair of different concepts (by position). -/
theorem C06_no_cross_concept_all (parts : List (List Nat × List Nat)) (hwf : WF parts) :
    ∀ (k i j : Nat), i < j → ∀ (ci cj : List (Nat × Nat)),
    (glue k parts)[i]? = some ci → (glue k parts)[j]? = some cj →
    ∀ e ∈ ci, ∀ e' ∈ cj, e.2 < e'.2 := by
  induction parts with
  | nil => intro k i j _ ci cj h; simp [glue] at h
  | cons p rest ih =>
    rintro k i (_ | j) hij ci cj hi hj e he e' he'
    · omega
    obtain ⟨idx, labs⟩ := p
    rw [glue, List.getElem?_cons_succ] at hj
    cases i with
    | zero =>
      cases hi
      exact C06_no_cross_concept (idx, labs) rest hwf k e he cj (List.mem_of_getElem? hj) e' he'
    | succ i =>
      rw [glue, List.getElem?_cons_succ] at hi
      exact ih (fun q hq => hwf q (List.mem_cons_of_mem _ hq)) _ i j (by omega) ci cj hi hj e he e' he'

/-- **C06, within a concept**: two words get the same id iff they got the same cluster label. -/
theorem C06_within (idx labs : List Nat) (rest : List (List Nat × List Nat)) (k : Nat)
    (i j : Nat) (a b la lb : Nat)
    (ha : (idx.zip (labs.map (· + k)))[i]? = some (a, la)) (hb : (idx.zip (labs.map (· + k)))[j]? = some (b, lb)) :
    (glue k ((idx, labs) :: rest)).headD [] = idx.zip (labs.map (· + k)) ∧
    (la = lb ↔ labs[i]? = labs[j]?) := by
  refine ⟨by simp [glue], ?_⟩
  simp only [List.getElem?_zip_eq_some, List.getElem?_map] at ha hb
  obtain ⟨x, hi, rfl⟩ := Option.map_eq_some_iff.mp ha.2
  obtain ⟨y, hj, rfl⟩ := Option.map_eq_some_iff.mp hb.2
  rw [hi, hj, Option.some.injEq, Nat.add_right_cancel_iff]

/-- the id of word `i` of concept `c` -/
def idAt (k : Nat) (parts : List (List Nat × List Nat)) (c i : Nat) : Option Nat :=
  ((glue k parts)[c]?.bind (·[i]?)).map (·.2)

theorem idAt_mem (parts : List (List Nat × List Nat)) (k c i : Nat) (v : Nat) (h : idAt k parts c i = some v) :
    ∃ C e, (glue k parts)[c]? = some C ∧ e ∈ C ∧ e.2 = v := by
  unfold idAt at h
  cases hC : (glue k parts)[c]? with
  | none => simp [hC] at h
  | some C =>
    simp only [hC, Option.bind_some, Option.map_eq_some_iff] at h
    obtain ⟨e, he, rfl⟩ := h
    exact ⟨C, e, rfl, List.mem_of_getElem? he, rfl⟩

theorem glue_getElem (parts : List (List Nat × List Nat)) : ∀ (k c : Nat),
    ∃ kc, (glue k parts)[c]? = parts[c]?.map fun p => p.1.zip (p.2.map (· + kc)) := by
  induction parts with
  | nil => intro k c; exact ⟨0, rfl⟩
  | cons p rest ih =>
    obtain ⟨idx, labs⟩ := p
    rintro k (_ | c)
    · exact ⟨k, rfl⟩
    · exact ih ((labs.map (· + k)).foldl max 0) c

theorem idAt_lt (parts : List (List Nat × List Nat)) (hwf : WF parts) (k : Nat) {c c' i j v v' : Nat} (hlt : c < c')
    (h : idAt k parts c i = some v) (h' : idAt k parts c' j = some v') : v < v' := by
  obtain ⟨C, e, hC, he, rfl⟩ := idAt_mem parts k c i v h
  obtain ⟨C', e', hC', he', rfl⟩ := idAt_mem parts k c' j v' h'
  exact C06_no_cross_concept_all parts hwf k c c' hlt C C' hC hC' e he e' he'

theorem idAt_spec (parts : List (List Nat × List Nat)) (hwf : WF parts) (k c : Nat) (p : List Nat × List Nat)
    (hp : parts[c]? = some p) :
    ∃ kc, ∀ i, i < p.1.length → ∃ l, p.2[i]? = some l ∧ idAt k parts c i = some (l + kc) := by
  obtain ⟨kc, h⟩ := glue_getElem parts k c
  rw [hp] at h
  refine ⟨kc, fun i hi => ?_⟩
  have hi2 : i < p.2.length := (hwf p (List.mem_of_getElem? hp)).1 ▸ hi
  have he : (p.1.zip (p.2.map (· + kc)))[i]? = some (p.1[i], p.2[i] + kc) := by
    rw [List.getElem?_zip_eq_some, List.getElem?_map, List.getElem?_eq_getElem hi, List.getElem?_eq_getElem hi2]
    exact ⟨rfl, rfl⟩
  refine ⟨p.2[i], List.getElem?_eq_getElem hi2, ?_⟩
  rw [idAt, h, Option.map_some, Option.bind_some, he, Option.map_some]

theorem idAt_eq_iff (parts : List (List Nat × List Nat)) (hwf : WF parts) (k c i j : Nat) (p : List Nat × List Nat)
    (hp : parts[c]? = some p) (hi : i < p.1.length) (hj : j < p.1.length) :
    (idAt k parts c i = idAt k parts c j) ↔ p.2[i]? = p.2[j]? := by
  obtain ⟨kc, h⟩ := idAt_spec parts hwf k c p hp
  obtain ⟨l, hl, hv⟩ := h i hi
  obtain ⟨l', hl', hv'⟩ := h j hj
  rw [hv, hv', hl, hl', Option.some.injEq, Option.some.injEq, Nat.add_right_cancel_iff]

theorem idAt_concept (parts : List (List Nat × List Nat)) (hwf : WF parts) (k c c' i j : Nat)
    (p : List Nat × List Nat) (hp : parts[c]? = some p) (hi : i < p.1.length)
    (heq : idAt k parts c i = idAt k parts c' j) : c = c' := by
  obtain ⟨_, h⟩ := idAt_spec parts hwf k c p hp
  obtain ⟨_, _, hv⟩ := h i hi
  rcases Nat.lt_trichotomy c c' with hlt | hcc | hlt
  · exact absurd (idAt_lt parts hwf k hlt hv (heq ▸ hv)) (Nat.lt_irrefl _)
  · exact hcc
  · exact absurd (idAt_lt parts hwf k hlt (heq ▸ hv) hv) (Nat.lt_irrefl _)

theorem labels_pos {S : Type} [Verif.Align.ScoreOps S] (cfg : Verif.Cluster.Cfg) (M : Nat → Nat → S) (t : S)
    (n : Nat) : ∀ x ∈ Verif.Cluster.revert (Verif.Cluster.flatCluster cfg M t n), 1 ≤ x.2 :=
  fun x hx => ((Verif.Cluster.C05_partition_revert cfg M t n).2 x hx).1

end Verif.Cognates
