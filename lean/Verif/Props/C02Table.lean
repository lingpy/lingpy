import Verif.Lemmas.RescoreTable
import Verif.Props.C02
/-!
# C02 over an observed table (tie (a))

A decidable check that an observed `(matrix, traceback)` pair is a legal table of the scoring
scheme – every inner cell is **one of** the candidates computed from its observed neighbours,
borders as initialised – and the theorem that for every table passing the check the value of the
cell the traceback starts from equals the independent re-scoring of the traceback's columns.
-/
namespace Verif.Align
open ScoreOps
variable {S : Type} [ScoreOps S] [Inhabited S] [DecidableEq S]

def tableOkGb (K : AffKernel S) (T : Nat → Nat → Cell S) (N M : Nat) : Bool :=
  decide (T 0 0 = K.corner) &&
  (List.range M).all (fun j => decide (T 0 (j+1) = K.row0 (j+1) (T 0 j))) &&
  (List.range N).all (fun i => decide (T (i+1) 0 = K.col0 (i+1) (T i 0))) &&
  (List.range N).all (fun i => (List.range M).all fun j =>
    decide (T (i+1) (j+1) = (K.candUp (i+1) (j+1) (T i (j+1)), 3)) ||
    decide (T (i+1) (j+1) = (K.candDiag (i+1) (j+1) (T i j).1, 1)) ||
    decide (T (i+1) (j+1) = (K.candLeft (i+1) (j+1) (T (i+1) j), 2)))

def tableOkLb (K : AffKernel S) (T : Nat → Nat → Cell S) (N M : Nat) : Bool :=
  (List.range (M+1)).all (fun j => decide (T 0 j = (zero, 0))) &&
  (List.range (N+1)).all (fun i => decide (T i 0 = (zero, 0))) &&
  (List.range N).all (fun i => (List.range M).all fun j =>
    decide (T (i+1) (j+1) = (K.candUp (i+1) (j+1) (T i (j+1)), 3)) ||
    decide (T (i+1) (j+1) = (K.candDiag (i+1) (j+1) (T i j).1, 1)) ||
    decide (T (i+1) (j+1) = (K.candLeft (i+1) (j+1) (T (i+1) j), 2)) ||
    decide (T (i+1) (j+1) = (zero, 0)))

omit [ScoreOps S] [Inhabited S] in
theorem tableOkGb_sound (K : AffKernel S) (T : Nat → Nat → Cell S) (N M : Nat)
    (h : tableOkGb K T N M = true) : TableOkG K T N M := by
  simp only [tableOkGb, Bool.and_eq_true, decide_eq_true_eq, List.all_eq_true, List.mem_range,
    Bool.or_eq_true, or_assoc] at h
  obtain ⟨⟨⟨h1, h2⟩, h3⟩, h4⟩ := h
  exact ⟨h1, h2, h3, fun i j hi hj => h4 i hi j hj⟩

omit [Inhabited S] in
theorem tableOkLb_sound (K : AffKernel S) (T : Nat → Nat → Cell S) (N M : Nat)
    (h : tableOkLb K T N M = true) : TableOkL K T N M := by
  simp only [tableOkLb, Bool.and_eq_true, decide_eq_true_eq, List.all_eq_true, List.mem_range,
    Bool.or_eq_true, or_assoc] at h
  obtain ⟨⟨h1, h2⟩, h4⟩ := h
  exact ⟨fun j hj => h1 j (by omega), fun i hi => h2 i (by omega), fun i j hi hj => h4 i hi j hj⟩

-- the statement (like that of `C02_of_table_local`) takes the section's `[Inhabited S]` without need
set_option linter.unusedSectionVars false in
/-- **C02 over an observed table, global / overlap** -/
theorem C02_of_table_global (cfg : Cfg) (inp : Input S) (hm : cfg.mode = .global ∨ cfg.mode = .overlap)
    (T : Nat → Nat → Cell S) (h : tableOkGb (kernelOf cfg inp) T inp.N inp.M = true) :
    ∃ cols, tbGlobal (fun i j => (T i j).2) inp.a inp.b inp.N inp.M [] = some cols ∧
      (T inp.N inp.M).1 = rescoreCols cfg inp cols := by
  have hl : cfg.mode ≠ .local := by rcases hm with h | h <;> simp [h]
  obtain ⟨hrow, hcol⟩ := kernel_border_moves cfg inp hl
  obtain ⟨cols, h1, h2⟩ := rescore_tbGlobal_of_table (kernelOf cfg inp) hrow hcol inp.a inp.b inp.N inp.M
    (Nat.le_refl _) (Nat.le_refl _) T (tableOkGb_sound _ T _ _ h) _ (fun _ _ _ _ => rfl) inp.N inp.M [] (Nat.le_refl _) (Nat.le_refl _)
  exact ⟨cols, by simpa using h1, by simp [rescoreCols, h2]⟩

set_option linter.unusedSectionVars false in
/-- **C02 over an observed table, local mode**, for any start cell inside the table. -/
theorem C02_of_table_local (cfg : Cfg) (inp : Input S)
    (T : Nat → Nat → Cell S) (h : tableOkLb (kernelOf cfg inp) T inp.N inp.M = true)
    (k l : Nat) (hk : k ≤ inp.N) (hl : l ≤ inp.M) :
    ∃ i0 j0 cols, tbLocal (fun i j => (T i j).2) inp.a inp.b k l [] = some (i0, j0, cols) ∧
      (T k l).1 = rescoreLocal cfg inp i0 j0 cols := by
  obtain ⟨i0, j0, cols, h1, h2⟩ := rescore_tbLocal_of_table (kernelOf cfg inp) inp.a inp.b inp.N inp.M
    (Nat.le_refl _) (Nat.le_refl _) T (tableOkLb_sound _ T _ _ h) _ (fun _ _ _ _ => rfl) k l [] hk hl
  exact ⟨i0, j0, cols, by simpa using h1, by simp [rescoreLocal, h2]⟩

end Verif.Align
