import Verif.Model.Cache
/-!
# C20 — the cache state machine recovers from every state

If the handler catches both kinds of failure (missing file, unpickling failure – what the
bare `except:` of the source does), then from **every** cache state a start succeeds, leaves
every file it reads valid, a second start compiles nothing, and no history of
(damage ; start)* makes a start fail.  With a handler that catches only `missing` the negation
is proved by a witness.
-/
namespace Verif.Cache

/-- units are well formed: the compile step writes the file that is loaded, inside the cache -/
def WF (us : List CUnit) (n : Nat) : Prop := ∀ u ∈ us, u.main ∈ u.writes ∧ ∀ f ∈ u.writes, f < n

theorem setValid_length (c : Cache) (f : Nat) : (setValid c f).length = c.length := List.length_mapIdx

theorem stateOf_setValid (c : Cache) (f g : Nat) :
    stateOf (setValid c f) g = if g = f ∧ g < c.length then .valid else stateOf c g := by
  simp only [stateOf, setValid, List.getD_eq_getElem?_getD, List.getElem?_mapIdx]
  by_cases hg : g < c.length <;> simp [hg]

theorem foldl_setValid (ws : List Nat) (c : Cache) :
    ws.foldl setValid c = c.mapIdx fun i s => if i ∈ ws then .valid else s := by
  induction ws generalizing c with
  | nil => exact List.ext_getElem? fun i => by simp
  | cons w ws ih =>
    rw [List.foldl_cons, ih, setValid, List.mapIdx_mapIdx]
    congr 1
    funext i s
    by_cases h1 : i ∈ ws <;> by_cases h2 : i = w <;> simp [h1, h2]

theorem foldl_setValid_length (ws : List Nat) (c : Cache) : (ws.foldl setValid c).length = c.length := by
  simp [foldl_setValid]

theorem stateOf_foldl_setValid (ws : List Nat) (c : Cache) (g : Nat) :
    stateOf (ws.foldl setValid c) g = if g ∈ ws ∧ g < c.length then .valid else stateOf c g := by
  simp only [foldl_setValid, stateOf, List.getD_eq_getElem?_getD, List.getElem?_mapIdx]
  by_cases hg : g < c.length
  · by_cases hw : g ∈ ws <;> simp [hg, hw]
  · simp [hg]

theorem startUnit_valid (E : Failure → Bool) (c : Cache) (u : CUnit) (hv : stateOf c u.main = .valid) :
    startUnit E c u = .ok (c, [.loadOk u.main]) := by
  simp [startUnit, tryLoad, hv]

theorem compiled_main_valid (c : Cache) (u : CUnit) (hu : u.main ∈ u.writes ∧ ∀ f ∈ u.writes, f < c.length) :
    stateOf (u.writes.foldl setValid c) u.main = .valid := by
  rw [stateOf_foldl_setValid, if_pos ⟨hu.1, hu.2 _ hu.1⟩]

theorem startUnit_spec (E : Failure → Bool) (hE : ∀ e, E e = true) (c : Cache) (u : CUnit)
    (hu : u.main ∈ u.writes ∧ ∀ f ∈ u.writes, f < c.length) :
    ∃ c' ev, startUnit E c u = .ok (c', ev) ∧ c'.length = c.length ∧ stateOf c' u.main = .valid ∧
      (∀ g, stateOf c g = .valid → stateOf c' g = .valid) ∧
      (stateOf c u.main = .valid → c' = c ∧ ev = [.loadOk u.main]) := by
  unfold startUnit tryLoad
  cases hs : stateOf c u.main with
  | valid => exact ⟨c, _, rfl, rfl, hs, fun _ h => h, fun _ => ⟨rfl, rfl⟩⟩
  | absent | corrupt =>
    -- the handler catches the failure, the unit is compiled, and the second load finds `main` written
    simp only [hE, if_true, compiled_main_valid c u hu]
    refine ⟨_, _, rfl, foldl_setValid_length _ _, compiled_main_valid c u hu, fun g hg => ?_, fun h => nomatch h⟩
    rw [stateOf_foldl_setValid]; split <;> simp [hg]

theorem start_cons (E : Failure → Bool) (u : CUnit) (us : List CUnit) (c c1 c2 : Cache) (ev1 ev2 : List Ev)
    (h1 : startUnit E c u = .ok (c1, ev1)) (h2 : start E us c1 = .ok (c2, ev2)) :
    start E (u :: us) c = .ok (c2, ev1 ++ ev2) := by
  simp [start, h1, h2]

/-- **C20, recovery** -/
theorem C20_recovers (E : Failure → Bool) (hE : ∀ e, E e = true) (us : List CUnit) (c : Cache)
    (hwf : WF us c.length) :
    ∃ c' ev, start E us c = .ok (c', ev) ∧ c'.length = c.length ∧
      (∀ u ∈ us, stateOf c' u.main = .valid) ∧ (∀ g, stateOf c g = .valid → stateOf c' g = .valid) := by
  induction us generalizing c with
  | nil => exact ⟨c, [], rfl, rfl, by simp, fun _ h => h⟩
  | cons u us ih =>
    obtain ⟨hu, hus⟩ := List.forall_mem_cons.mp hwf
    obtain ⟨c1, ev1, h1, hl1, hv1, hm1, _⟩ := startUnit_spec E hE c u hu
    obtain ⟨c2, ev2, h2, hl2, hv2, hm2⟩ := ih c1 (hl1 ▸ hus)
    refine ⟨c2, ev1 ++ ev2, ?_, ?_, ?_, ?_⟩
    · exact start_cons E u us c c1 c2 ev1 ev2 h1 h2
    · exact hl2.trans hl1
    · exact List.forall_mem_cons.mpr ⟨hm2 _ hv1, hv2⟩
    · exact fun g hg => hm2 g (hm1 g hg)

/-- **C20, clean restart**: nothing is compiled, the event log consists of successful loads only -/
theorem C20_clean_restart (E : Failure → Bool) (us : List CUnit) (c : Cache)
    (hv : ∀ u ∈ us, stateOf c u.main = .valid) :
    start E us c = .ok (c, us.map fun u => .loadOk u.main) := by
  induction us with
  | nil => rfl
  | cons u us ih =>
    obtain ⟨hu, hus⟩ := List.forall_mem_cons.mp hv
    exact start_cons E u us c c c _ _ (startUnit_valid E c u hu) (ih hus)

/-- a history: faults (any file set to any state) interleaved with starts -/
inductive Step where
  | fault (f : Nat) (s : FState)
  | boot
  deriving Repr

def runHistory (E : Failure → Bool) (us : List CUnit) : List Step → Cache → Option Cache
  | [], c => some c
  | .fault f s :: hs, c => runHistory E us hs (damage c f s)
  | .boot :: hs, c =>
    match start E us c with
    | .ok (c', _) => runHistory E us hs c'
    | .error _ => none

theorem damage_length (c : Cache) (f : Nat) (s : FState) : (damage c f s).length = c.length := by
  simp [damage]

/-- **C20, any history**: no history of faults and starts makes a start fail (the cache keeps its size, so the units stay
well formed).  That the next start after a start is clean is `C20_recovers` with `C20_clean_restart`, not part of this statement. -/
theorem C20_any_history (E : Failure → Bool) (hE : ∀ e, E e = true) (us : List CUnit) (hs : List Step)
    (c : Cache) (hwf : WF us c.length) :
    ∃ c', runHistory E us hs c = some c' ∧ c'.length = c.length := by
  induction hs generalizing c with
  | nil => exact ⟨c, rfl, rfl⟩
  | cons h hs ih =>
    cases h with
    | fault f s =>
      obtain ⟨c', h1, h2⟩ := ih (damage c f s) (by rw [damage_length]; exact hwf)
      exact ⟨c', by simp [runHistory, h1], by rw [h2, damage_length]⟩
    | boot =>
      obtain ⟨c1, ev, h1, hl, _, _⟩ := C20_recovers E hE us c hwf
      obtain ⟨c', h2, h3⟩ := ih c1 (by rw [hl]; exact hwf)
      exact ⟨c', by simp [runHistory, h1, h2], by omega⟩

/-- **Negation for a narrower handler** (`except FileNotFoundError:`): a truncated converter
pickle makes the start fail. -/
theorem C20_narrow_handler_fails :
    start (fun e => e == .missing) [⟨0, [0, 1]⟩] [.corrupt, .valid] = .error .unpickle := by
  rfl

/-- non-vacuity: the broad handler recovers from the same state, and the restart is clean -/
example : start (fun _ => true) [⟨0, [0, 1]⟩] [.corrupt, .valid] =
    .ok ([.valid, .valid], [.loadFail 0 .unpickle, .dump 0, .dump 1, .loadOk 0]) := by rfl
example : start (fun _ => true) [⟨0, [0, 1]⟩] [.valid, .valid] = .ok ([.valid, .valid], [.loadOk 0]) := by
  rfl

end Verif.Cache
