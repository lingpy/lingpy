import Verif.Model.Line
import Verif.Lemmas.ListFacts
/-!
# C13 — line level: what is written as a table is read back as the same table

`C13_lines`: if no field has a tab or outer white space, the first field of every line (the row id, or `ID` in the
header) starts with a character other than `#`, `@`, `<`, and the interleaved lines are comment lines, then splitting
and stripping the written lines returns exactly the fields.  (Line breaks inside fields are excluded with the tab: the
harness checks that the property's domain has neither.)
-/
namespace Verif.Line

theorem split_notab : ∀ (f : List Nat), tab ∉ f → split f = [f]
  | [], _ => rfl
  | c :: r, h => by
    simp [split, (List.ne_of_not_mem_cons h).symm, split_notab r (List.not_mem_of_not_mem_cons h)]

theorem split_append_tab : ∀ (f rest : List Nat), tab ∉ f → split (f ++ tab :: rest) = f :: split rest
  | [], rest, _ => by simp [split]
  | c :: r, rest, h => by
    simp [split, (List.ne_of_not_mem_cons h).symm, split_append_tab r rest (List.not_mem_of_not_mem_cons h)]

theorem split_join : ∀ (fields : List (List Nat)), fields ≠ [] → (∀ f ∈ fields, tab ∉ f) →
    split (join fields) = fields
  | [], h, _ => absurd rfl h
  | [f], _, h => by simpa [join] using split_notab f (h f List.mem_cons_self)
  | f :: g :: r, _, h => by
    simp only [join]
    rw [split_append_tab f _ (h f List.mem_cons_self),
      split_join (g :: r) (by simp) (fun x hx => h x (List.mem_cons_of_mem _ hx))]

/-- a field without outer white space -/
def Trim (f : List Nat) : Prop := (∀ c, f.head? = some c → isSpace c = false) ∧ (∀ c, f.getLast? = some c → isSpace c = false)

/-- the right half of `strip`, and `rstrip('.')` -/
theorem rstrip_pad (p : Nat → Bool) (f pad : List Nat) (hpad : ∀ c ∈ pad, p c = true)
    (hf : ∀ c, f.getLast? = some c → p c = false) : ((f ++ pad).reverse.dropWhile p).reverse = f := by
  rw [List.reverse_append, List.dropWhile_append_of_pos (by simpa using hpad),
    dropWhile_eq_self p _ (by simpa [List.head?_reverse] using hf), List.reverse_reverse]

theorem stripL_eq_dropWhile : ∀ f, stripL f = f.dropWhile isSpace
  | [] => rfl
  | c :: r => by rw [stripL, List.dropWhile_cons, stripL_eq_dropWhile r]

theorem stripL_id (f : List Nat) (h : ∀ c, f.head? = some c → isSpace c = false) : stripL f = f := by
  rw [stripL_eq_dropWhile, dropWhile_eq_self isSpace f h]

theorem strip_id (f : List Nat) (h : Trim f) : strip f = f := by
  unfold strip
  rw [stripL_id f h.1, stripL_eq_dropWhile]
  simpa using rstrip_pad isSpace f [] (by simp) h.2

def isSpecial (c : Nat) : Bool := c == hash || c == at_ || c == lt_

/-- a written table line: at least one field, the first one starts with an ordinary character -/
def RowOk (r : List (List Nat)) : Prop :=
  (∃ c f rest, r = (c :: f) :: rest ∧ isSpecial c = false) ∧ (∀ f ∈ r, tab ∉ f ∧ Trim f)

theorem kind_join (r : List (List Nat)) (h : RowOk r) : kind (join r) = .dataL := by
  obtain ⟨⟨c, f, rest, rfl, hc⟩, _⟩ := h
  simp only [isSpecial, Bool.or_eq_false_iff, beq_eq_false_iff_ne] at hc
  have : ∃ tl, join ((c :: f) :: rest) = c :: tl := by
    cases rest with
    | nil => exact ⟨f, rfl⟩
    | cons g r => exact ⟨f ++ tab :: join (g :: r), rfl⟩
  obtain ⟨tl, e⟩ := this
  simp [e, kind, hc.1.1, hc.1.2, hc.2]

theorem parse_join (r : List (List Nat)) (h : RowOk r) : (split (join r)).map strip = r := by
  have hne : r ≠ [] := by obtain ⟨⟨c, f, rest, rfl, _⟩, _⟩ := h; simp
  rw [split_join r hne fun f hf => (h.2 f hf).1]
  exact (List.map_congr_left fun f hf => strip_id f (h.2 f hf).2).trans (List.map_id r)

theorem parseLines_append (a b : List (List Nat)) : parseLines (a ++ b) = parseLines a ++ parseLines b := by
  simp [parseLines]

theorem parseLines_comments (ls : List (List Nat)) (h : ∀ l ∈ ls, kind l = .skipL) : parseLines ls = [] := by
  simp only [parseLines, List.map_eq_nil_iff, List.filter_eq_nil_iff]
  intro l hl
  simp [h l hl]

theorem parseLines_row (r : List (List Nat)) (h : RowOk r) : parseLines [join r] = [r] := by
  simp [parseLines, kind_join r h, parse_join r h]

/-- **C13, line level** -/
theorem C13_lines : ∀ (items : List (List (List Nat) × List (List Nat))),
    (∀ it ∈ items, RowOk it.2 ∧ ∀ l ∈ it.1, kind l = .skipL) →
    parseLines (serialize items) = items.map (·.2)
  | [], _ => rfl
  | it :: rest, h => by
    obtain ⟨hrow, hcom⟩ := h it List.mem_cons_self
    have ih := C13_lines rest fun x hx => h x (List.mem_cons_of_mem _ hx)
    rw [serialize] at ih ⊢
    rw [List.flatMap_cons, parseLines_append, parseLines_append, parseLines_comments _ hcom, parseLines_row _ hrow, ih]
    rfl

theorem rstripDots_pad (w : Nat) (f : List Nat) (h : ∀ c, f.getLast? = some c → c ≠ dot) :
    rstripDots (padDots w f) = f :=
  rstrip_pad (· == dot) f _ (fun c hc => by simp [List.eq_of_mem_replicate hc])
    (fun c hc => by simpa using h c hc)

theorem rstripDots_id (f : List Nat) (h : ∀ c, f.getLast? = some c → c ≠ dot) : rstripDots f = f := by
  simpa [padDots] using rstripDots_pad 0 f h

theorem trim_pad (w : Nat) (f : List Nat) (h : Trim f) : Trim (padDots w f) := by
  have hp : ∀ c ∈ List.replicate (w - f.length) dot, isSpace c = false := fun c hc => by
    rw [List.eq_of_mem_replicate hc]; decide
  unfold padDots
  constructor
  · intro c hc
    rcases Option.or_eq_some_iff.mp (List.head?_append ▸ hc) with hc | ⟨_, hc⟩
    · exact h.1 c hc
    · exact hp c (List.mem_of_mem_head? hc)
  · intro c hc
    rcases Option.or_eq_some_iff.mp (List.getLast?_append ▸ hc) with hc | ⟨_, hc⟩
    · exact hp c (List.mem_of_getLast? hc)
    · exact h.2 c hc

/-- **C13, a line of an `<msa>` block** is read back as written (no field with a tab, outer white space or a final dot) -/
theorem C13_msa_line (id taxon : List Nat) (w : Nat) (cells : List (List Nat))
    (h : ∀ f ∈ id :: taxon :: cells, tab ∉ f ∧ Trim f ∧ ∀ c, f.getLast? = some c → c ≠ dot) :
    parseMsaLine (msaLine id w taxon cells) = id :: taxon :: cells := by
  obtain ⟨hid, hrest⟩ := List.forall_mem_cons.mp h
  obtain ⟨htx, hcells⟩ := List.forall_mem_cons.mp hrest
  have hfield : ∀ f, Trim f → (∀ c, f.getLast? = some c → c ≠ dot) → rstripDots (strip f) = f :=
    fun f ht hd => by rw [strip_id f ht, rstripDots_id f hd]
  have hpad : tab ∉ padDots w taxon := fun hm =>
    (List.mem_append.mp hm).elim htx.1 fun hm => absurd (List.eq_of_mem_replicate hm) (by decide)
  unfold parseMsaLine msaLine
  rw [split_join _ (by simp)
    (List.forall_mem_cons.mpr ⟨hid.1, List.forall_mem_cons.mpr ⟨hpad, fun f hf => (hcells f hf).1⟩⟩)]
  simp only [List.map_cons]
  rw [hfield id hid.2.1 hid.2.2, strip_id _ (trim_pad w taxon htx.2.1), rstripDots_pad w taxon htx.2.2,
    List.map_congr_left (g := fun f => f) fun f hf => hfield f (hcells f hf).2.1 (hcells f hf).2.2, List.map_id']

/-- the finding recorded as `msa-taxon-trailing-dot`: a taxon name that ends in a dot (`Gr.`) is NOT
read back – padding and a real trailing dot cannot be told apart -/
example : parseMsaLine (msaLine [49] 5 [71, 114, 46] [[104], [97]]) = [[49], [71, 114], [104], [97]] := by decide

/-- not vacuous: `ID<TAB>DOCULECT` / comment / `1<TAB>ab c` -/
example : parseLines (serialize [([], [[73, 68], [68, 79, 67]]), ([[35]], [[49], [97, 98, 32, 99]])]) =
    [[[73, 68], [68, 79, 67]], [[49], [97, 98, 32, 99]]] := by decide

/-- a tab inside a field is what breaks it -/
example : split (join [[49], [97, 9, 98]]) ≠ [[49], [97, 9, 98]] := by decide

theorem splitColon_append : ∀ (k v : List Nat), colon ∉ k → splitColon (k ++ colon :: v) = some (k, v)
  | [], v, _ => by simp [splitColon]
  | c :: r, v, h => by
    simp [splitColon, (List.ne_of_not_mem_cons h).symm, splitColon_append r v (List.not_mem_of_not_mem_cons h)]

/-- **C13, simple meta data**: `@key:value` goes to the meta branch and is read back exactly (no colon in the key, no outer
white space in either) -/
theorem C13_meta_line (k v : List Nat) (hk : colon ∉ k) (htk : Trim k) (htv : Trim v) :
    kind (metaLine k v) = .metaL ∧ parseMeta (metaLine k v) = some (k, v) := by
  constructor
  · simp [kind, metaLine, at_, hash]
  · have e : metaLine k v = at_ :: (k ++ colon :: v) := by simp [metaLine]
    rw [e]
    simp only [parseMeta, splitColon_append k v hk, Option.map_some, strip_id k htk, strip_id v htv]

/-- the hypothesis on the key is needed: a key containing a colon is cut at it -/
example : parseMeta (metaLine [97, 58, 98] [99]) = some ([97], [98, 58, 99]) := by decide

/-- **C13, one line of the `<scorer>` block**: symbol and values come back as written (no tab inside them) -/
theorem C13_scorer_line (ch : List Nat) (vals : List (List Nat)) (hc : tab ∉ ch) (hv : ∀ v ∈ vals, tab ∉ v) :
    readScorerLine (scorerLine ch vals) = (ch, vals) := by
  unfold readScorerLine scorerLine
  rw [split_join (ch :: vals) (by simp) (List.forall_mem_cons.mpr ⟨hc, hv⟩)]

example : readScorerLine (scorerLine [65] [[49, 46, 48], [45, 50]]) = ([65], [[49, 46, 48], [45, 50]]) := by decide

end Verif.Line
