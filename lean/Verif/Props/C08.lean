import Verif.Props.C07
/-!
# C08 — the weighted gain–loss scenario has minimum weight

Specification: a *labeling* gives every node of the tree a state 0/1; its cost is the sum, over
the edges (and the virtual edge from "absent" above the root), of the gain weight for 0→1 and the
loss weight for 1→0.  A labeling is *consistent* when it agrees with every known leaf.

Theorem `C08_optimal`: when the gains-per-lineage limit cannot bind (it is at least the number of
nodes below the root of the analysed subtree) the scenario selected by the model weighs no more than
**any** consistent labeling costs – for every tree (binary or multifurcating, no assumption on
names), every pattern with missing leaves, every weight pair and `push_gains`.  The bottom-up
invariant is `cands_opt`: for every labeling and every state `σ` of the parent, some candidate kept
at the node is at most as expensive as the labeling, counting the edge from the parent.

`C08_achievable` (with any limit): the returned scenario induces a consistent labeling that costs
no more than the scenario weighs, so the weight is never below the minimum.
-/
namespace Verif.GL

/-- cost of an edge from a node in state `a` to a child in state `b` -/
def edgeCost (w : Nat × Nat) (a b : Int) : Nat :=
  if a = b then 0 else if b = 1 then w.1 else w.2

mutual
/-- cost of the edges inside the subtree `t` under the labeling `L` -/
def labCost (w : Nat × Nat) (L : Nat → Int) : GTree → Nat
  | .leaf _ => 0
  | .node n cs => labCostL w L (L n) cs
def labCostL (w : Nat × Nat) (L : Nat → Int) (σ : Int) : List GTree → Nat
  | [] => 0
  | t :: ts => (edgeCost w σ (L t.name) + labCost w L t) + labCostL w L σ ts
end

/-- cost of the subtree including the edge from a parent in state `σ` -/
def costFrom (w : Nat × Nat) (L : Nat → Int) (σ : Int) (t : GTree) : Nat :=
  edgeCost w σ (L t.name) + labCost w L t

def Labeling (L : Nat → Int) : Prop := ∀ k, L k = 0 ∨ L k = 1

def Consistent (pat L : Nat → Int) (t : GTree) : Prop :=
  ∀ n ∈ leafNames t, pat n ≠ -1 → L n = pat n

/-- what a candidate in state `s` costs on the edge from a parent in state `σ` (an undetermined
candidate takes the parent's state) -/
def up (w : Nat × Nat) (σ s : Int) : Nat := if s = -1 then 0 else edgeCost w σ s

def sumW (w : Nat × Nat) (combo : List Cand) : Nat := (combo.map fun c => weightOf w c.2).sum
def upSum (w : Nat × Nat) (τ : Int) (combo : List Cand) : Nat := (combo.map fun c => up w τ c.1).sum

theorem weightOf_flatMap (w : Nat × Nat) (combo : List Cand) :
    weightOf w (combo.flatMap (·.2)) = sumW w combo := by
  induction combo with
  | nil => simp [weightOf_nil, sumW]
  | cons c cs ih =>
    simp only [List.flatMap_cons, weightOf_append, ih, sumW, List.map_cons, List.sum_cons]

theorem edgeCost_tri (w : Nat × Nat) (σ a b : Int) :
    edgeCost w σ b ≤ edgeCost w σ a + edgeCost w a b := by
  by_cases h2 : a = b
  · subst h2; exact Nat.le_add_right _ _
  · -- the second edge changes state, into `b`: it costs what any edge into `b` costs
    unfold edgeCost
    by_cases h1 : σ = b
    · rw [if_pos h1]; exact Nat.zero_le _
    · rw [if_neg h1, if_neg h2]; exact Nat.le_add_left _ _

theorem edgeCost_eq_evW (w : Nat × Nat) (τ v : Int) (hv : v = 1 ∨ v = 0) (hτv : τ ≠ v) :
    edgeCost w τ v = evW w v := by
  rcases hv with rfl | rfl <;> simp [edgeCost, hτv]

theorem up_eq_evW (w : Nat × Nat) (τ v : Int) (hv : v = 1 ∨ v = 0) (hτv : τ ≠ v) : up w τ v = evW w v := by
  rw [← edgeCost_eq_evW w τ v hv hτv, up, if_neg (by omega)]

theorem up_tri (w : Nat × Nat) (σ τ s : Int) : up w σ s ≤ edgeCost w σ τ + up w τ s := by
  unfold up
  split
  · omega
  · exact edgeCost_tri w σ τ s

theorem le_sum_of_mem {a : Nat} {l : List Nat} (h : a ∈ l) : a ≤ l.sum := by
  obtain ⟨s, t, rfl⟩ := List.append_of_mem h
  rw [List.sum_append_nat, List.sum_cons]
  omega

theorem up_le_upSum (w : Nat × Nat) (τ : Int) (combo : List Cand) (c : Cand) (hc : c ∈ combo) :
    up w τ c.1 ≤ upSum w τ combo :=
  le_sum_of_mem (List.mem_map_of_mem (f := fun c => up w τ c.1) hc)

theorem upSum_flip (w : Nat × Nat) (τ v : Int) (hτv : τ = 1 ∧ v = 0 ∨ τ = 0 ∧ v = 1) (combo : List Cand)
    (h : ∀ c ∈ combo, StateOk c.1) : upSum w τ combo = count v (combo.map (·.1)) * evW w v := by
  induction combo with
  | nil => simp [upSum, count]
  | cons c cs ih =>
    rw [List.forall_mem_cons] at h
    simp only [upSum, List.map_cons, List.sum_cons, count_cons, Nat.add_mul] at ih ⊢
    rw [ih h.2]
    rcases h.1 with h1 | h1 | h1 <;> rcases hτv with ⟨rfl, rfl⟩ | ⟨rfl, rfl⟩ <;>
      simp [h1, up, edgeCost]

theorem weightOf_events_le (w : Nat × Nat) (τ v : Int) (hv : v = 1 ∨ v = 0) (hτv : τ ≠ v) :
    ∀ (names : List Nat) (combo : List Cand), weightOf w (evZip names (combo.map (·.1)) v) ≤ upSum w τ combo
  | [], _ => by simp [evZip, weightOf_nil]
  | _ :: _, [] => by simp [evZip, weightOf_nil]
  | n :: ns, c :: cs => by
    have ih := weightOf_events_le w τ v hv hτv ns cs
    simp only [evZip, List.map_cons, List.zip_cons_cons, List.filter_cons, upSum, List.sum_cons, beq_iff_eq] at ih ⊢
    by_cases hc : c.1 = v
    · have hup := up_eq_evW w τ v hv hτv
      simp only [hc, if_true, List.map_cons, weightOf_cons] at hup ⊢
      omega
    · simp only [hc, if_false]
      omega

theorem combine_state (cfg : Cfg) (names : List Nat) (combo : List Cand) :
    ∀ c ∈ combine cfg names combo, StateOk c.1 := by
  intro c hc
  rcases combine_spec cfg names combo with ⟨s, e, hs, _⟩ | e <;> rw [e] at hc
  · rw [List.mem_singleton.mp hc]; exact hs
  · rcases mem_pair.mp hc with rfl | rfl
    · exact Or.inl rfl
    · exact Or.inr (Or.inl rfl)

theorem combine_len (cfg : Cfg) (names : List Nat) (combo : List Cand) :
    ∀ c ∈ combine cfg names combo, c.2.length ≤ (combo.flatMap (·.2)).length + combo.length := by
  intro c hc
  have hev : ∀ v, (evZip names (combo.map (·.1)) v).length ≤ combo.length := fun v => by
    simpa only [List.length_map] using evZip_length_le names (combo.map (·.1)) v
  rcases combine_spec cfg names combo with ⟨s, e, _⟩ | e <;> rw [e] at hc
  · rw [List.mem_singleton.mp hc]; exact Nat.le_add_right _ _
  · rcases mem_pair.mp hc with rfl | rfl <;> rw [List.length_append]
    · exact Nat.add_le_add_left (hev 0) _
    · exact Nat.add_le_add_left (hev 1) _

/-- **the combination step loses nothing**: if the parent is labelled `τ` and the children's
candidates cost `sumW + upSum τ` including their edges, some new candidate of the parent costs at most
that plus the edge from a grandparent in state `σ` to `τ`.  A child in a state outside {1, 0, -1}, or one
without a name, only loses events. -/
theorem combine_loses_nothing (cfg : Cfg) (hamf : cfg.allMissingFirst = true) (names : List Nat) (combo : List Cand)
    (τ σ : Int) (hτ : τ = 0 ∨ τ = 1) :
    ∃ c ∈ combine cfg names combo,
      weightOf cfg.w c.2 + up cfg.w σ c.1 ≤ edgeCost cfg.w σ τ + (sumW cfg.w combo + upSum cfg.w τ combo) := by
  rcases combine_spec cfg names combo with ⟨s, e, _, _, hex⟩ | e <;> rw [e]
  · -- one candidate, in a state `s` that some child has: the edge into `s` is paid for by the edge into `τ`
    -- and that child's edge from `τ`
    refine ⟨_, List.mem_singleton.mpr rfl, ?_⟩
    have : up cfg.w σ s ≤ edgeCost cfg.w σ τ + upSum cfg.w τ combo := by
      rcases hex with rfl | ⟨c, hc, rfl⟩ | h
      · simp [up]
      · have := up_tri cfg.w σ τ c.1
        have := up_le_upSum cfg.w τ combo c hc
        omega
      · rw [hamf] at h; cases h
    simp only [weightOf_flatMap]
    omega
  · -- mixed children: the candidate in state `τ`; its new events are the edges from `τ` to the children
    have hup : up cfg.w σ τ = edgeCost cfg.w σ τ := by rw [up, if_neg (by omega)]
    rcases hτ with rfl | rfl
    · refine ⟨_, List.mem_cons_of_mem _ List.mem_cons_self, ?_⟩
      have := weightOf_events_le cfg.w 0 1 (Or.inl rfl) (by omega) names combo
      rw [weightOf_append, weightOf_flatMap, hup]
      omega
    · refine ⟨_, List.mem_cons_self, ?_⟩
      have := weightOf_events_le cfg.w 1 0 (Or.inr rfl) (by omega) names combo
      rw [weightOf_append, weightOf_flatMap, hup]
      omega

-- `hlen` and `hst` are not needed (`combine_loses_nothing`)
set_option linter.unusedVariables false in
theorem combine_opt (cfg : Cfg) (hamf : cfg.allMissingFirst = true) (names : List Nat) (combo : List Cand)
    (hlen : names.length = combo.length) (hst : ∀ c ∈ combo, StateOk c.1) (τ σ : Int) (hτ : τ = 0 ∨ τ = 1) :
    ∃ c ∈ combine cfg names combo,
      weightOf cfg.w c.2 + up cfg.w σ c.1 ≤ edgeCost cfg.w σ τ + (sumW cfg.w combo + upSum cfg.w τ combo) :=
  combine_loses_nothing cfg hamf names combo τ σ hτ

theorem prune_opt (cfg : Cfg) (hamf : cfg.allMissingFirst = true) (X : List Cand) (c : Cand) (hc : c ∈ X)
    (hs : StateOk c.1) (hg : c.2.length ≤ cfg.gpl) :
    ∃ c' ∈ prune cfg X, c'.1 = c.1 ∧ weightOf cfg.w c'.2 ≤ weightOf cfg.w c.2 := by
  have hok : c ∈ X.filter fun c => !(c.1 == 1 && count (1 : Int) (c.2.map (·.2)) > cfg.gpl) := by
    refine List.mem_filter.mpr ⟨hc, ?_⟩
    have := count_le 1 (c.2.map (·.2))
    rw [List.length_map] at this
    have hle : ¬ (cfg.gpl < count (1 : Int) (c.2.map (·.2))) := by omega
    simp [hle]
  obtain ⟨c', hc', h1, h2⟩ := pick_opt cfg _ c.1 c hok rfl
  refine ⟨c', (mem_prune cfg X c').mpr ⟨c.1, ?_, hc'⟩, h1, h2⟩
  rcases hs with h | h | h
  · exact Or.inr (Or.inl h)
  · exact Or.inl h
  · exact Or.inr (Or.inr ⟨h, hamf⟩)

mutual
theorem cands_basic (cfg : Cfg) (pat : Nat → Int) (hpat : ∀ n, StateOk (pat n)) :
    ∀ (t : GTree), ∀ c ∈ cands cfg pat t, StateOk c.1 ∧ c.2.length ≤ (descNames t).length
  | .leaf n, c, hc => by
    simp only [cands, List.mem_singleton] at hc
    subst hc
    exact ⟨hpat n, by simp⟩
  | .node n cs, c, hc => by
    obtain ⟨combo, hcombo, hcc⟩ := List.mem_flatMap.mp (prune_sub cfg _ c hc)
    exact ⟨combine_state cfg _ combo c hcc,
      Nat.le_trans (combine_len cfg _ combo c hcc) (candsL_basic cfg pat hpat cs combo hcombo)⟩
theorem candsL_basic (cfg : Cfg) (pat : Nat → Int) (hpat : ∀ n, StateOk (pat n)) :
    ∀ (ts : List GTree), ∀ combo ∈ product (candsL cfg pat ts),
      (combo.flatMap (·.2)).length + combo.length ≤ (nodeNamesL ts).length
  | [], combo, h => by
    simp only [candsL, product, List.mem_singleton] at h
    subst h
    simp [nodeNamesL]
  | t :: ts, combo, h => by
    simp only [candsL] at h
    obtain ⟨x, hx, r, hr, rfl⟩ := (mem_product_cons _ _ _).mp h
    have h2 := (cands_basic cfg pat hpat t x hx).2
    have g2 := candsL_basic cfg pat hpat ts r hr
    simp only [List.flatMap_cons, List.length_cons, nodeNamesL, List.length_append, nodeNames_length] at g2 ⊢
    omega
end

mutual
theorem cands_opt (cfg : Cfg) (hamf : cfg.allMissingFirst = true) (pat : Nat → Int) (hpat : ∀ n, StateOk (pat n))
    (L : Nat → Int) (hL : Labeling L) :
    ∀ (t : GTree), (descNames t).length ≤ cfg.gpl → Consistent pat L t → ∀ σ : Int,
      ∃ c ∈ cands cfg pat t, weightOf cfg.w c.2 + up cfg.w σ c.1 ≤ costFrom cfg.w L σ t
  | .leaf n, _, hcons, σ => by
    refine ⟨(pat n, []), by simp [cands], ?_⟩
    simp only [weightOf_nil, costFrom, labCost, GTree.name, Nat.zero_add, Nat.add_zero]
    unfold up
    by_cases hm : pat n = -1
    · simp [hm]
    · simp only [hm, if_false]
      rw [hcons n (by simp [leafNames]) hm]
      exact Nat.le_refl _
  | .node n cs, hg, hcons, σ => by
    obtain ⟨combo, hcombo, hsum⟩ := candsL_opt cfg hamf pat hpat L hL cs (L n) hg hcons
    have hlen := candsL_basic cfg pat hpat cs combo hcombo
    obtain ⟨c, hc, hle⟩ := combine_loses_nothing cfg hamf (cs.map GTree.name) combo (L n) σ (hL n)
    have hcX : c ∈ (product (candsL cfg pat cs)).flatMap (combine cfg (cs.map GTree.name)) :=
      List.mem_flatMap.mpr ⟨combo, hcombo, hc⟩
    obtain ⟨c', hc', hs', hw'⟩ := prune_opt cfg hamf _ c hcX (combine_state cfg _ combo c hc)
      (Nat.le_trans (combine_len cfg _ combo c hc) (Nat.le_trans hlen hg))
    -- pruning keeps something no heavier in the same state, the combination lost nothing, the children by induction
    refine ⟨c', hc', ?_⟩
    rw [hs']
    exact Nat.le_trans (Nat.add_le_add_right hw' _) (Nat.le_trans hle (Nat.add_le_add_left hsum _))
theorem candsL_opt (cfg : Cfg) (hamf : cfg.allMissingFirst = true) (pat : Nat → Int) (hpat : ∀ n, StateOk (pat n))
    (L : Nat → Int) (hL : Labeling L) :
    ∀ (ts : List GTree) (τ : Int), (nodeNamesL ts).length ≤ cfg.gpl →
      (∀ n ∈ leafNamesL ts, pat n ≠ -1 → L n = pat n) →
      ∃ combo ∈ product (candsL cfg pat ts), sumW cfg.w combo + upSum cfg.w τ combo ≤ labCostL cfg.w L τ ts
  | [], τ, _, _ => by
    exact ⟨[], by simp [candsL, product], by simp [sumW, upSum, labCostL]⟩
  | t :: ts, τ, hg, hcons => by
    simp only [nodeNamesL, List.length_append, nodeNames_length] at hg
    obtain ⟨x, hx, hxle⟩ := cands_opt cfg hamf pat hpat L hL t (by omega)
      (fun n hn => hcons n (List.mem_append_left _ hn)) τ
    obtain ⟨r, hr, hrle⟩ := candsL_opt cfg hamf pat hpat L hL ts τ (by omega)
      (fun n hn => hcons n (List.mem_append_right _ hn))
    refine ⟨x :: r, ?_, ?_⟩
    · simp only [candsL]
      exact (mem_product_cons _ _ _).mpr ⟨x, hx, r, hr, rfl⟩
    · simp only [sumW, upSum, List.map_cons, List.sum_cons, labCostL, costFrom] at hxle hrle ⊢
      omega
end

theorem rootStory_weight (w : Nat × Nat) (name : Nat) (c : Cand) (hs : StateOk c.1) :
    weightOf w (if c.1 == 1 then c.2 ++ [(name, (1 : Int))] else c.2) = weightOf w c.2 + up w 0 c.1 := by
  rcases hs with h | h | h
  · simp [h, weightOf_append, weightOf_cons, weightOf_nil, up, edgeCost]
  · simp [h, up, edgeCost]
  · simp [h, up]

theorem rootCands_opt (cfg : Cfg) (hamf : cfg.allMissingFirst = true) (pat : Nat → Int) (hpat : ∀ n, StateOk (pat n))
    (t : GTree) (hg : (descNames t).length ≤ cfg.gpl) (L : Nat → Int) (hL : Labeling L) (hcons : Consistent pat L t) :
    ∃ s ∈ rootCands cfg pat t, weightOf cfg.w s ≤ costFrom cfg.w L 0 t := by
  obtain ⟨c, hc, hle⟩ := cands_opt cfg hamf pat hpat L hL t hg hcons 0
  refine ⟨_, List.mem_map.mpr ⟨c, hc, rfl⟩, ?_⟩
  rw [rootStory_weight cfg.w t.name c (cands_basic cfg pat hpat t c hc).1]
  exact hle

/-- **C08 (optimality)** -/
theorem C08_optimal (cfg : Cfg) (hamf : cfg.allMissingFirst = true) (pat : Nat → Int) (hpat : ∀ n, StateOk (pat n))
    (t : GTree) (hg : (descNames t).length ≤ cfg.gpl) (story : Story)
    (h : pickFinal cfg (minWeightStories cfg (rootCands cfg pat t)) = some story)
    (L : Nat → Int) (hL : Labeling L) (hcons : Consistent pat L t) :
    weightOf cfg.w story ≤ costFrom cfg.w L 0 t := by
  obtain ⟨s, hs, hle⟩ := rootCands_opt cfg hamf pat hpat t hg L hL hcons
  exact Nat.le_trans (((mem_minWeightStories cfg _ story).mp (pickFinal_mem cfg _ story h)).2 s hs) hle

/-- a scenario is returned whenever a consistent labeling exists -/
theorem C08_returns (cfg : Cfg) (hamf : cfg.allMissingFirst = true) (pat : Nat → Int) (hpat : ∀ n, StateOk (pat n))
    (t : GTree) (hg : (descNames t).length ≤ cfg.gpl)
    (L : Nat → Int) (hL : Labeling L) (hcons : Consistent pat L t) :
    ∃ story, pickFinal cfg (minWeightStories cfg (rootCands cfg pat t)) = some story := by
  obtain ⟨s, hs, _⟩ := rootCands_opt cfg hamf pat hpat t hg L hL hcons
  have hne := minWeight_nonempty cfg _ s hs
  unfold pickFinal
  cases hms : minWeightStories cfg (rootCands cfg pat t) with
  | nil => exact absurd hms hne
  | cons x xs => exact ⟨_, rfl⟩

theorem consistent_exists (pat : Nat → Int) (hpat : ∀ n, StateOk (pat n)) (t : GTree) :
    ∃ L, Labeling L ∧ Consistent pat L t := by
  refine ⟨fun n => if pat n = 1 then 1 else 0, ?_, ?_⟩
  · intro k; by_cases h : pat k = 1 <;> simp [h]
  · intro n _ hm
    rcases hpat n with h | h | h
    · simp [h]
    · simp [h]
    · exact absurd h hm

@[simp] theorem name_node (n : Nat) (cs : List GTree) : (GTree.node n cs).name = n := rfl
@[simp] theorem name_leaf (n : Nat) : (GTree.leaf n).name = n := rfl

theorem labCostL_sum (w : Nat × Nat) (L : Nat → Int) (σ : Int) (ts : List GTree) :
    labCostL w L σ ts = (ts.map (costFrom w L σ)).sum := by
  induction ts with
  | nil => rfl
  | cons t ts ih => simp only [labCostL, costFrom, List.map_cons, List.sum_cons, ih]

theorem costFrom_child (w : Nat × Nat) (L : Nat → Int) (σ : Int) (n : Nat) (cs : List GTree) (c : GTree)
    (hc : c ∈ cs) : costFrom w L σ c ≤ costFrom w L σ (.node n cs) := by
  have h1 : costFrom w L (L n) c ≤ labCostL w L (L n) cs := by
    rw [labCostL_sum]; exact le_sum_of_mem (List.mem_map_of_mem hc)
  have h2 := edgeCost_tri w σ (L n) (L c.name)
  simp only [costFrom, labCost, name_node] at h1 ⊢
  omega

theorem lcaSub_induct (P : GTree → Prop) (ps : List Nat)
    (hstep : ∀ n cs c, c ∈ cs → containsAll ps c = true → P (.node n cs) → P c) :
    ∀ (f : Nat) (t : GTree), P t → P (lcaSub ps f t)
  | 0, t, h => h
  | f+1, .leaf n, h => h
  | f+1, .node n cs, h => by
    simp only [lcaSub]
    split
    · rename_i c hfind
      exact lcaSub_induct P ps hstep f c
        (hstep n cs c (List.mem_of_find?_eq_some hfind) (List.find?_some hfind) h)
    · exact h

theorem lookup_mem {β : Type} (l : List (Nat × β)) (n : Nat) (v : β) (h : l.lookup n = some v) : (n, v) ∈ l := by
  obtain ⟨l₁, l₂, rfl, _⟩ := List.lookup_eq_some_iff.mp h
  exact List.mem_append_right _ List.mem_cons_self

/-- patterns over {1, 0, -1} with missing data kept or recoded as absence are what the theorems assume -/
theorem patOf_stateOk (md : Int) (hmd : md = 0 ∨ md = -1) (pat : List (Nat × Int)) (hv : ∀ p ∈ pat, StateOk p.2)
    (n : Nat) : StateOk (patOf md pat n) := by
  unfold patOf
  split
  · rename_i v hl
    have := hv _ (lookup_mem pat n v hl)
    split
    · rcases hmd with h | h <;> rw [h] <;> simp [StateOk]
    · exact this
  · exact Or.inr (Or.inl rfl)

/-- What `get_gls` returns, for the subtree `sub` at which the descent into a child that holds every present leaf stops:
the single gain at its root if all its leaves are present, otherwise the selection among its root scenarios.  `P` is
whatever the caller carries down. -/
theorem getGls_spec (cfg : Cfg) (md : Int) (t : GTree) (pat : List (Nat × Int)) (story : Story)
    (h : getGls cfg md t pat = some story) (P : GTree → Prop) (ht : P t)
    (hstep : ∀ n cs c, c ∈ cs → (∀ k ∈ leafNamesL cs, patOf md pat k = 1 → k ∈ leafNames c) →
      P (.node n cs) → P c) :
    ∃ sub, P sub ∧
      (((∀ k ∈ leafNames sub, patOf md pat k = 1) ∧ story = [(sub.name, 1)]) ∨
        pickFinal cfg (minWeightStories cfg (rootCands cfg (patOf md pat) sub)) = some story) := by
  -- the search is handed the present leaves of `t`; carried along: the leaves of the node at hand are leaves of `t`
  obtain ⟨hP, _⟩ := lcaSub_induct (fun s => P s ∧ ∀ k ∈ leafNames s, k ∈ leafNames t)
    ((leafNames t).filter fun n => patOf md pat n == 1)
    (fun n cs c hc hall ⟨hP, hsub⟩ =>
      ⟨hstep n cs c hc (fun k hk hp => by
          simpa using List.all_eq_true.mp hall k (List.mem_filter.mpr ⟨hsub k hk, by simp [hp]⟩)) hP,
        fun k hk => hsub k (mem_leafNamesL.mpr ⟨c, hc, hk⟩)⟩)
    (size t) t ⟨ht, fun _ hk => hk⟩
  refine ⟨_, hP, ?_⟩
  unfold getGls glsCandidates at h
  simp only at h
  split at h
  · rename_i hall
    simp only [pickFinal, List.foldl_nil, Option.some.injEq] at h
    exact Or.inl ⟨fun k hk => by simpa using List.all_eq_true.mp hall k hk, h.symm⟩
  · exact Or.inr h

mutual
/-- every internal node has at least one child -/
def proper : GTree → Bool
  | .leaf _ => true
  | .node _ cs => !cs.isEmpty && properL cs
def properL : List GTree → Bool
  | [] => true
  | t :: ts => proper t && properL ts
end

theorem properL_eq (ts : List GTree) : properL ts = ts.all proper := by
  induction ts with
  | nil => rfl
  | cons t ts ih => simp only [properL, List.all_cons, ih]

theorem proper_has_leaf (t : GTree) : proper t = true → ∃ k, k ∈ leafNames t := by
  induction t using GTree.induct with
  | leaf n => exact fun _ => ⟨n, List.mem_singleton.mpr rfl⟩
  | node n cs ih =>
    intro h
    simp only [proper, properL_eq, Bool.and_eq_true, Bool.not_eq_true', List.isEmpty_eq_false_iff,
      List.all_eq_true] at h
    obtain ⟨c, hc⟩ := List.exists_mem_of_ne_nil cs h.1
    obtain ⟨k, hk⟩ := ih c hc (h.2 c hc)
    exact ⟨k, mem_leafNamesL.mpr ⟨c, hc, hk⟩⟩

theorem leaf_cost (w : Nat × Nat) (L : Nat → Int) (k : Nat) (hk : L k = 1) (t : GTree) :
    k ∈ leafNames t → ∀ σ : Int, edgeCost w σ 1 ≤ costFrom w L σ t := by
  induction t using GTree.induct with
  | leaf n =>
    intro h σ
    rw [List.mem_singleton.mp h] at hk
    simp [costFrom, labCost, hk]
  | node n cs ih =>
    intro h σ
    obtain ⟨c, hc, hkc⟩ := mem_leafNamesL.mp h
    exact Nat.le_trans (ih c hc hkc σ) (costFrom_child w L σ n cs c hc)

/-- **C08 at the level of `get_gls`** (common ancestor of the presences, early return for an
all-present clade, selection): the returned scenario weighs at most what any consistent labeling of
the *whole* tree costs, counted from "absent" above the root.  The limit is asked not to bind on the whole
tree (`C08_optimal` asks it of the analysed subtree, which is found only inside). -/
theorem C08_getGls (cfg : Cfg) (hamf : cfg.allMissingFirst = true) (md : Int) (t : GTree) (pat : List (Nat × Int))
    (hpat : ∀ n, StateOk (patOf md pat n)) (hg : (nodeNames t).length ≤ cfg.gpl) (hp : proper t = true)
    (story : Story) (h : getGls cfg md t pat = some story)
    (L : Nat → Int) (hL : Labeling L) (hcons : Consistent (patOf md pat) L t) :
    weightOf cfg.w story ≤ costFrom cfg.w L 0 t := by
  obtain ⟨sub, ⟨hgplS, hconsS, hcostS, hproperS⟩, h⟩ := getGls_spec cfg md t pat story h
    (fun s => (nodeNames s).length ≤ cfg.gpl ∧ Consistent (patOf md pat) L s ∧
      costFrom cfg.w L 0 s ≤ costFrom cfg.w L 0 t ∧ proper s = true)
    ⟨hg, hcons, Nat.le_refl _, hp⟩
    (by
      intro n cs c hc _ ⟨hgplN, hconsN, hcostN, hproperN⟩
      refine ⟨?_, fun k hk => hconsN k (mem_leafNamesL.mpr ⟨c, hc, hk⟩),
        Nat.le_trans (costFrom_child cfg.w L 0 n cs c hc) hcostN, ?_⟩
      · have : (nodeNames c).length ≤ (nodeNamesL cs).length := by
          rw [nodeNamesL_eq, List.length_flatMap]; exact le_sum_of_mem (List.mem_map_of_mem hc)
        simp only [nodeNames, List.length_cons] at hgplN
        omega
      · simp only [proper, properL_eq, Bool.and_eq_true, List.all_eq_true] at hproperN
        exact hproperN.2 c hc)
  rcases h with ⟨hall, rfl⟩ | h
  · -- all leaves present: one of them is labelled present, so the labeling pays for a gain
    obtain ⟨k, hk⟩ := proper_has_leaf sub hproperS
    have hLk : L k = 1 := by rw [hconsS k hk (by rw [hall k hk]; omega), hall k hk]
    have := leaf_cost cfg.w L k hLk sub hk 0
    have e : edgeCost cfg.w 0 1 = cfg.w.1 := by simp [edgeCost]
    have hw : weightOf cfg.w [(sub.name, (1 : Int))] = cfg.w.1 := by
      simp [weightOf_cons, weightOf_nil]
    omega
  · have := C08_optimal cfg hamf _ hpat sub (by rw [nodeNames_length] at hgplS; omega) story h L hL hconsS
    omega

mutual
/-- the state of every node of `t` when the scenario is replayed with `t` itself in state `σ` -/
def stateMap (story : Story) (σ : Int) : GTree → List (Nat × Int)
  | .leaf n => [(n, σ)]
  | .node n cs => (n, σ) :: stateMapL story σ cs
def stateMapL (story : Story) (σ : Int) : List GTree → List (Nat × Int)
  | [] => []
  | t :: ts => stateMap story ((lookupM story t.name).getD σ) t ++ stateMapL story σ ts
end

mutual
/-- cost of the state changes of the replay inside `t` -/
def replayCost (w : Nat × Nat) (story : Story) (σ : Int) : GTree → Nat
  | .leaf _ => 0
  | .node _ cs => replayCostL w story σ cs
def replayCostL (w : Nat × Nat) (story : Story) (σ : Int) : List GTree → Nat
  | [] => 0
  | t :: ts => (edgeCost w σ ((lookupM story t.name).getD σ) +
      replayCost w story ((lookupM story t.name).getD σ) t) + replayCostL w story σ ts
end

theorem stateMap_head (story : Story) (σ : Int) (t : GTree) : (t.name, σ) ∈ stateMap story σ t := by
  cases t <;> simp [stateMap]

mutual
theorem stateMap_keys (story : Story) : ∀ (t : GTree) (σ : Int), (stateMap story σ t).map (·.1) = nodeNames t
  | .leaf n, σ => by simp [stateMap, nodeNames]
  | .node n cs, σ => by simp [stateMap, nodeNames, stateMapL_keys story cs σ]
theorem stateMapL_keys (story : Story) : ∀ (ts : List GTree) (σ : Int), (stateMapL story σ ts).map (·.1) = nodeNamesL ts
  | [], σ => by simp [stateMapL, nodeNamesL]
  | t :: ts, σ => by simp [stateMapL, nodeNamesL, stateMap_keys story t, stateMapL_keys story ts σ]
end

theorem stateMapL_eq (story : Story) (σ : Int) (ts : List GTree) :
    stateMapL story σ ts = ts.flatMap fun t => stateMap story ((lookupM story t.name).getD σ) t := by
  induction ts with
  | nil => rfl
  | cons t ts ih => simp [stateMapL, ih]

theorem getD_val (story : Story) (k : Nat) (σ : Int) (hσ : σ = 0 ∨ σ = 1) :
    (lookupM story k).getD σ = 0 ∨ (lookupM story k).getD σ = 1 := by
  cases h : lookupM story k with
  | none => exact hσ
  | some v => exact (lookupM_some story k v h).1.symm

theorem stateMap_vals (story : Story) (t : GTree) : ∀ σ : Int, (σ = 0 ∨ σ = 1) →
    ∀ p ∈ stateMap story σ t, p.2 = 0 ∨ p.2 = 1 := by
  induction t using GTree.induct with
  | leaf n => intro σ hσ p hp; rw [List.mem_singleton.mp hp]; exact hσ
  | node n cs ih =>
    intro σ hσ p hp
    simp only [stateMap, stateMapL_eq, List.mem_cons, List.mem_flatMap] at hp
    rcases hp with rfl | ⟨c, hc, hp⟩
    · exact hσ
    · exact ih c hc _ (getD_val story c.name σ hσ) p hp

theorem stateMapL_vals (story : Story) : ∀ (ts : List GTree) (σ : Int), (σ = 0 ∨ σ = 1) →
    ∀ p ∈ stateMapL story σ ts, p.2 = 0 ∨ p.2 = 1 :=
  fun ts σ hσ p hp => stateMap_vals story (.node 0 ts) σ hσ p (List.mem_cons_of_mem _ hp)

theorem below_sub_stateMap (story : Story) (t : GTree) :
    ∀ σ : Int, ∀ p ∈ below story σ t, p ∈ stateMap story σ t := by
  induction t using GTree.induct with
  | leaf n => exact fun _ _ hp => hp
  | node n cs ih =>
    intro σ p hp
    simp only [below, belowL_eq, List.mem_flatMap] at hp
    obtain ⟨c, hc, hp⟩ := hp
    simp only [stateMap, stateMapL_eq, List.mem_cons, List.mem_flatMap]
    exact Or.inr ⟨c, hc, ih c hc _ p hp⟩

theorem belowL_sub_stateMapL (story : Story) : ∀ (ts : List GTree) (σ : Int), ∀ p ∈ belowL story σ ts, p ∈ stateMapL story σ ts := by
  intro ts σ p hp
  simp only [belowL_eq, List.mem_flatMap] at hp
  obtain ⟨c, hc, hp⟩ := hp
  simp only [stateMapL_eq, List.mem_flatMap]
  exact ⟨c, hc, below_sub_stateMap story c _ p hp⟩

mutual
theorem labCost_eq (w : Nat × Nat) (story : Story) (L : Nat → Int) : ∀ (t : GTree) (σ : Int),
    (∀ p ∈ stateMap story σ t, L p.1 = p.2) → labCost w L t = replayCost w story σ t
  | .leaf _, _, _ => rfl
  | .node n cs, σ, h => by
    have hn : L n = σ := h _ (stateMap_head story σ (.node n cs))
    rw [labCost, replayCost, hn]
    exact labCostL_eq w story L cs σ fun p hp => h p (List.mem_cons_of_mem _ hp)
theorem labCostL_eq (w : Nat × Nat) (story : Story) (L : Nat → Int) : ∀ (ts : List GTree) (σ : Int),
    (∀ p ∈ stateMapL story σ ts, L p.1 = p.2) → labCostL w L σ ts = replayCostL w story σ ts
  | [], _, _ => rfl
  | t :: ts, σ, h => by
    have h1 : ∀ p ∈ stateMap story ((lookupM story t.name).getD σ) t, L p.1 = p.2 :=
      fun p hp => h p (List.mem_append_left _ hp)
    have hname : L t.name = (lookupM story t.name).getD σ := h1 _ (stateMap_head story _ t)
    rw [labCostL, replayCostL, hname, labCost_eq w story L t _ h1,
      labCostL_eq w story L ts σ fun p hp => h p (List.mem_append_right _ hp)]
end

/-- weight of the events of the scenario on the nodes named in `A` -/
def wOn (w : Nat × Nat) (story : Story) (A : List Nat) : Nat :=
  weightOf w (story.filter fun e => A.contains e.1)

theorem wOn_append (w : Nat × Nat) (A B : List Nat) (hdis : ∀ k ∈ A, k ∉ B) : ∀ (s : Story),
    wOn w s A + wOn w s B ≤ wOn w s (A ++ B)
  | [] => by simp [wOn, weightOf_nil]
  | (k, e) :: s => by
    have ih := wOn_append w A B hdis s
    unfold wOn at ih ⊢
    simp only [List.filter_cons, List.contains_iff_mem, List.mem_append]
    by_cases hA : k ∈ A
    · have hB : k ∉ B := hdis k hA
      simp only [hA, hB, true_or, if_true, if_false, weightOf_cons]
      omega
    · by_cases hB : k ∈ B
      · simp only [hA, hB, or_true, if_true, if_false, weightOf_cons]
        omega
      · simp only [hA, hB, or_self, if_false]
        exact ih

theorem wOn_single (w : Nat × Nat) (story : Story) (k : Nat) (σ : Int) :
    edgeCost w σ ((lookupM story k).getD σ) ≤ wOn w story [k] := by
  cases h : lookupM story k with
  | none => simp [edgeCost]
  | some v =>
    obtain ⟨hv, hmem⟩ := lookupM_some story k v h
    by_cases hσ : σ = v
    · simp [edgeCost, hσ]
    · rw [Option.getD_some, edgeCost_eq_evW w σ v hv hσ]
      exact mem_weight w k v _ (List.mem_filter.mpr ⟨hmem, by simp⟩)

mutual
theorem replayCost_le (w : Nat × Nat) (story : Story) : ∀ (t : GTree) (σ : Int), (nodeNames t).Nodup →
    replayCost w story σ t ≤ wOn w story (descNames t)
  | .leaf n, σ, _ => by simp [replayCost]
  | .node n cs, σ, h => by
    simp only [replayCost, descNames]
    simp only [nodeNames] at h
    exact replayCostL_le w story cs σ (List.nodup_cons.mp h).2
theorem replayCostL_le (w : Nat × Nat) (story : Story) : ∀ (ts : List GTree) (σ : Int), (nodeNamesL ts).Nodup →
    replayCostL w story σ ts ≤ wOn w story (nodeNamesL ts)
  | [], σ, _ => by simp [replayCostL]
  | t :: ts, σ, h => by
    simp only [nodeNamesL] at h
    obtain ⟨h1, h2, h3⟩ := List.nodup_append.mp h
    have i1 := replayCost_le w story t ((lookupM story t.name).getD σ) h1
    have i2 := replayCostL_le w story ts σ h2
    have i3 := wOn_single w story t.name σ
    have hsplit := wOn_append w (nodeNames t) (nodeNamesL ts) (fun k hk hk' => h3 k hk k hk' rfl) story
    have hhead : wOn w story [t.name] + wOn w story (descNames t) ≤ wOn w story (nodeNames t) := by
      rw [nodeNames_eq]
      exact wOn_append w [t.name] (descNames t) (fun k hk => List.mem_singleton.mp hk ▸ name_not_desc t h1) story
    -- the event on `t` pays for the edge into `t`, the events below `t` and on the siblings for the rest
    calc replayCostL w story σ (t :: ts)
        ≤ (wOn w story [t.name] + wOn w story (descNames t)) + wOn w story (nodeNamesL ts) :=
          Nat.add_le_add (Nat.add_le_add i3 i1) i2
      _ ≤ wOn w story (nodeNames t) + wOn w story (nodeNamesL ts) := Nat.add_le_add_right hhead _
      _ ≤ wOn w story (nodeNamesL (t :: ts)) := hsplit
end

theorem lookup_of_nodup {β : Type} (l : List (Nat × β)) (h : (l.map (·.1)).Nodup) (p : Nat × β) (hp : p ∈ l) :
    l.lookup p.1 = some p.2 := by
  obtain ⟨l₁, l₂, rfl⟩ := List.append_of_mem hp
  refine List.lookup_eq_some_iff.mpr ⟨l₁, l₂, rfl, fun q hq => ?_⟩
  rw [List.map_append, List.nodup_append] at h
  have hne : q.1 ≠ p.1 := h.2.2 q.1 (List.mem_map_of_mem hq) p.1 (List.mem_map_of_mem List.mem_cons_self)
  simpa using hne.symm

theorem labeling_of_assoc (sm : List (Nat × Int)) (hkeys : (sm.map (·.1)).Nodup)
    (hvals : ∀ p ∈ sm, p.2 = 0 ∨ p.2 = 1) : ∃ L, Labeling L ∧ ∀ p ∈ sm, L p.1 = p.2 := by
  refine ⟨fun k => (sm.lookup k).getD 0, fun k => ?_, fun p hp => ?_⟩
  · show (sm.lookup k).getD 0 = 0 ∨ (sm.lookup k).getD 0 = 1
    cases h : sm.lookup k with
    | none => exact Or.inl rfl
    | some v => exact hvals _ (lookup_mem sm k v h)
  · show (sm.lookup p.1).getD 0 = p.2
    rw [lookup_of_nodup sm hkeys p hp]; rfl

/-- **C08 (achievability)**, for any scenario whose replay reproduces the known leaves -/
theorem achievable_of_good (w : Nat × Nat) (pat : Nat → Int) (t : GTree) (hnd : (nodeNames t).Nodup)
    (story : Story) (hgood : Good pat (replay story t)) :
    ∃ L, Labeling L ∧ Consistent pat L t ∧ costFrom w L 0 t ≤ weightOf w story := by
  obtain ⟨L, hL, hagree⟩ := labeling_of_assoc (stateMap story ((lookupM story t.name).getD 0) t)
    (by rw [stateMap_keys]; exact hnd) (stateMap_vals story t _ (getD_val story t.name 0 (Or.inl rfl)))
  refine ⟨L, hL, fun n hn hknown => ?_, ?_⟩
  · have hm : n ∈ (below story ((lookupM story t.name).getD 0) t).map (·.1) := by rw [below_leaves]; exact hn
    obtain ⟨p, hp, rfl⟩ := List.mem_map.mp hm
    rw [hagree p (below_sub_stateMap story t _ p hp)]
    exact hgood p hp hknown
  · -- the root is one more edge, from "absent": cost and weight of the one-element list `[t]`
    calc costFrom w L 0 t = labCostL w L 0 [t] := rfl
      _ = replayCostL w story 0 [t] := labCostL_eq w story L [t] 0 (by simpa [stateMapL] using hagree)
      _ ≤ wOn w story (nodeNamesL [t]) := replayCostL_le w story [t] 0 (by simpa [nodeNamesL] using hnd)
      _ ≤ weightOf w story := weightOf_filter_le w _ story

theorem C08_achievable (cfg : Cfg) (pat : Nat → Int) (hpat : ∀ n, StateOk (pat n))
    (t : GTree) (hnd : (nodeNames t).Nodup) (story : Story)
    (h : pickFinal cfg (minWeightStories cfg (rootCands cfg pat t)) = some story) :
    ∃ L, Labeling L ∧ Consistent pat L t ∧ costFrom cfg.w L 0 t ≤ weightOf cfg.w story :=
  achievable_of_good cfg.w pat t hnd story (C07_get_gls cfg pat hpat t hnd story h).1

/-- **C08**: with a limit that cannot bind the weight of the returned scenario *is* the minimum
over all consistent labelings: it is the cost of one of them and at most the cost of each. -/
theorem C08_minimum (cfg : Cfg) (hamf : cfg.allMissingFirst = true) (pat : Nat → Int) (hpat : ∀ n, StateOk (pat n))
    (t : GTree) (hnd : (nodeNames t).Nodup) (hg : (descNames t).length ≤ cfg.gpl) (story : Story)
    (h : pickFinal cfg (minWeightStories cfg (rootCands cfg pat t)) = some story) :
    (∃ L, Labeling L ∧ Consistent pat L t ∧ costFrom cfg.w L 0 t = weightOf cfg.w story) ∧
    ∀ L, Labeling L → Consistent pat L t → weightOf cfg.w story ≤ costFrom cfg.w L 0 t := by
  have hopt := C08_optimal cfg hamf pat hpat t hg story h
  obtain ⟨L, h1, h2, h3⟩ := C08_achievable cfg pat hpat t hnd story h
  exact ⟨⟨L, h1, h2, Nat.le_antisymm h3 (hopt L h1 h2)⟩, hopt⟩

/-! ### not vacuous: a concrete multifurcating tree with a missing leaf -/

/-- `((1,2,3)10,(4,5)11)12` -/
def exTree : GTree := .node 12 [.node 10 [.leaf 1, .leaf 2, .leaf 3], .node 11 [.leaf 4, .leaf 5]]
def exPat : List (Nat × Int) := [(1, 1), (2, 0), (3, -1), (4, 1), (5, 1)]
def exCfg : Cfg := { w := (1, 3), gpl := 99, pushGains := true, allMissingFirst := true }

example : getGls exCfg (-1) exTree exPat = some [(1, 1), (11, 1)] := by decide
example : proper exTree = true ∧ (nodeNames exTree).length ≤ exCfg.gpl := by decide
example : ∀ n, StateOk (patOf (-1) exPat n) :=
  patOf_stateOk (-1) (Or.inr rfl) exPat (by unfold StateOk exPat; decide)

end Verif.GL
