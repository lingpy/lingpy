import Mathlib.Logic.Relation
import Verif.Model.Components
import Verif.Props.C16
/-!
# C16 — 'loose' cognate ids and post-processed partial ids are component labellings

`compOk_sound`: a labelling accepted by the certificate checker gives two nodes the same label
**iff** they are connected in the graph – so an accepted labelling is exactly the partition into
connected components.

`C16_loose_of_observed`: for an accepted run of the 'loose' derivation, two words of a concept get the
same id iff they are connected through the relation "share a partial id", and the ids of the concept
lie in `(k, k + number of components]` (so concepts never share an id when `k` advances by that number).

`C16_pp_unique`: for an accepted run of the post-processing, two different morphemes of one word never
get the same identifier, and new ids only refine the clusters.
-/
namespace Verif.Comp

def Conn (n : Nat) (adj : Nat → Nat → Bool) : Nat → Nat → Prop :=
  Relation.ReflTransGen (fun a b => a < n ∧ b < n ∧ sym adj a b = true)

theorem sym_comm (adj : Nat → Nat → Bool) (a b : Nat) : sym adj a b = sym adj b a := by
  simp [sym, Bool.or_comm]

theorem conn_symm (n : Nat) (adj : Nat → Nat → Bool) {x y : Nat} (h : Conn n adj x y) : Conn n adj y x :=
  Relation.ReflTransGen.mono (fun _ _ h => ⟨h.2.1, h.1, sym_comm adj _ _ ▸ h.2.2⟩) _ _
    (Relation.ReflTransGen.swap _ _ h)

theorem eq_of_conn {α : Type} {n : Nat} {adj : Nat → Nat → Bool} (f : Nat → α)
    (hf : ∀ a b, a < n → b < n → sym adj a b = true → f a = f b) {i j : Nat} (h : Conn n adj i j) : f i = f j := by
  induction h with
  | refl => rfl
  | tail _ hbc ih => exact ih.trans (hf _ _ hbc.1 hbc.2.1 hbc.2.2)

theorem eq_of_conn_isolated {n : Nat} {adj : Nat → Nat → Bool} {i j : Nat}
    (hi : ∀ x, x < n → sym adj i x = false) (h : Conn n adj i j) : i = j := by
  rcases Relation.ReflTransGen.cases_head h with h | ⟨b, hb, _⟩
  · exact h
  · rw [hi b hb.2.1] at hb; exact absurd hb.2.2 (by simp)

structure CompOk (n : Nat) (adj : Nat → Nat → Bool) (lab par rank : List Nat) : Prop where
  edges : ∀ i j, i < n → j < n → sym adj i j = true → lab.getD i 0 = lab.getD j 0
  parent : ∀ i, i < n → par.getD i 0 = i ∨
    (par.getD i 0 < n ∧ rank.getD (par.getD i 0) 0 < rank.getD i 0 ∧ sym adj (par.getD i 0) i = true ∧
      lab.getD (par.getD i 0) 0 = lab.getD i 0)
  roots : ∀ i j, i < n → j < n → par.getD i 0 = i → par.getD j 0 = j → lab.getD i 0 = lab.getD j 0 → i = j

theorem compOk_of_b (n : Nat) (adj : Nat → Nat → Bool) (lab par rank : List Nat)
    (h : compOkb n adj lab par rank = true) : CompOk n adj lab par rank := by
  simp only [compOkb, Bool.and_eq_true, List.all_eq_true, List.mem_range, Bool.or_eq_true, Bool.not_eq_true',
    beq_iff_eq, decide_eq_true_eq] at h
  obtain ⟨⟨⟨_, hedges⟩, hparent⟩, hroots⟩ := h
  have hedges : ∀ i, i < n → ∀ j, j < n → sym adj i j = false ∨ lab.getD i 0 = lab.getD j 0 := hedges
  have hroots : ∀ i, i < n → ∀ j, j < n →
      (par.getD i 0 == i && par.getD j 0 == j && lab.getD i 0 == lab.getD j 0) = false ∨ i = j := hroots
  refine ⟨?_, ?_, ?_⟩
  · exact fun i j hi hj hs => (hedges i hi j hj).resolve_left (by simp [hs])
  · intro i hi
    exact (hparent i hi).imp_right fun ⟨⟨⟨hlt, hrank⟩, hadj⟩, hlab⟩ => ⟨hlt, hrank, hadj, hlab⟩
  · intro i j hi hj pi pj hl
    refine (hroots i hi j hj).resolve_left ?_
    rw [pi, pj, hl]
    simp

theorem to_root (n : Nat) (adj : Nat → Nat → Bool) (lab par rank : List Nat) (h : CompOk n adj lab par rank) :
    ∀ (r i : Nat), rank.getD i 0 = r → i < n →
      ∃ root, root < n ∧ par.getD root 0 = root ∧ lab.getD root 0 = lab.getD i 0 ∧ Conn n adj i root := by
  intro r
  induction r using Nat.strongRecOn with
  | _ r ih =>
    intro i hr hi
    rcases h.parent i hi with hp | ⟨hpn, hrk, hadj, hlab⟩
    · exact ⟨i, hi, hp, rfl, Relation.ReflTransGen.refl⟩
    · obtain ⟨root, h1, h2, h3, h4⟩ := ih (rank.getD (par.getD i 0) 0) (by omega) (par.getD i 0) rfl hpn
      refine ⟨root, h1, h2, h3.trans hlab, ?_⟩
      exact Relation.ReflTransGen.head ⟨hi, hpn, by rw [sym_comm]; exact hadj⟩ h4

theorem compOk_sound (n : Nat) (adj : Nat → Nat → Bool) (lab par rank : List Nat)
    (hb : compOkb n adj lab par rank = true) (i j : Nat) (hi : i < n) (hj : j < n) :
    lab.getD i 0 = lab.getD j 0 ↔ Conn n adj i j := by
  have h := compOk_of_b n adj lab par rank hb
  constructor
  · intro hl
    obtain ⟨ri, a1, a2, a3, a4⟩ := to_root n adj lab par rank h _ i rfl hi
    obtain ⟨rj, b1, b2, b3, b4⟩ := to_root n adj lab par rank h _ j rfl hj
    have : ri = rj := h.roots ri rj a1 b1 a2 b2 (by rw [a3, b3, hl])
    subst this
    exact a4.trans (conn_symm n adj b4)
  · exact eq_of_conn (lab.getD · 0) h.edges

theorem firsts_eq_distinct (xs : List Nat) : firsts xs = Partial.distinct xs := by
  simp only [firsts, Partial.distinct, List.contains_iff_mem]

theorem mem_firsts (xs : List Nat) (x : Nat) : x ∈ firsts xs ↔ x ∈ xs :=
  firsts_eq_distinct xs ▸ Partial.mem_distinct xs x

theorem numbered_range (k : Nat) (lab : List Nat) (h : numberedb k lab = true) :
    ∀ x ∈ lab, k < x ∧ x ≤ k + (firsts lab).length := by
  intro x hx
  have hm := (mem_firsts lab x).mpr hx
  simp only [numberedb, beq_iff_eq] at h
  rw [h] at hm
  simp only [List.mem_range'_1] at hm
  rw [h, List.length_range']
  omega

/-- **C16, 'loose' ids of one concept** -/
theorem C16_loose_of_observed (k : Nat) (ids : List (List Nat)) (lab par rank : List Nat)
    (h : looseOkb k ids lab par rank = true) :
    (∀ i j, i < ids.length → j < ids.length →
      (lab.getD i 0 = lab.getD j 0 ↔ Conn ids.length (sharesb ids) i j)) ∧
    ∀ x ∈ lab, k < x ∧ x ≤ k + (firsts lab).length := by
  simp only [looseOkb, Bool.and_eq_true] at h
  exact ⟨fun i j hi hj => compOk_sound _ _ _ _ _ h.1 i j hi hj, numbered_range k lab h.2⟩

/-- **C16, post-processing** -/
theorem C16_pp_unique (k : Nat) (word old new : List Nat) (edge : Nat → Nat → Bool) (par rank : List Nat)
    (h : ppOkb k word old new edge par rank = true) :
    (∀ i j, i < word.length → j < word.length → i ≠ j → word.getD i 0 = word.getD j 0 →
      new.getD i 0 ≠ new.getD j 0) ∧
    (∀ i j, i < word.length → j < word.length → new.getD i 0 = new.getD j 0 → old.getD i 0 = old.getD j 0) ∧
    ∀ x ∈ new, k < x ∧ x ≤ k + (firsts new).length := by
  simp only [ppOkb, Bool.and_eq_true, List.all_eq_true, List.mem_range, Bool.or_eq_true, Bool.not_eq_true',
    beq_iff_eq] at h
  obtain ⟨⟨⟨⟨_, hold⟩, hiso⟩, hcomp⟩, hnum⟩ := h
  have sameOld : ∀ i j, Conn word.length edge i j → old.getD i 0 = old.getD j 0 := fun i j =>
    eq_of_conn (old.getD · 0) fun a b ha hb hs => (hold a ha b hb).resolve_left (by simp [hs])
  -- of two morphemes of one word in one cluster, one has lost all its edges (so it is alone in its component)
  have hiso : ∀ i, i < word.length → ∀ j, j < word.length → i ≠ j → word.getD i 0 = word.getD j 0 →
      old.getD i 0 = old.getD j 0 →
      (∀ x, x < word.length → sym edge i x = false) ∨ ∀ x, x < word.length → sym edge j x = false := by
    intro i hi j hj hne hw ho
    rcases hiso i hi j hj with (h | h) | h
    · rw [hw, ho] at h
      simp [hne] at h
    · exact .inl h
    · exact .inr h
  refine ⟨?_, ?_, numbered_range k new hnum⟩
  · intro i j hi hj hne hw hnew
    have hc := (compOk_sound _ _ _ _ _ hcomp i j hi hj).mp hnew
    rcases hiso i hi j hj hne hw (sameOld i j hc) with h | h
    · exact hne (eq_of_conn_isolated h hc)
    · exact hne (eq_of_conn_isolated h (conn_symm _ _ hc)).symm
  · intro i j hi hj hnew
    exact sameOld i j ((compOk_sound _ _ _ _ _ hcomp i j hi hj).mp hnew)

/-- not vacuous: a path 0 – 1 – 2 and an isolated node 3 -/
example : compOkb 4 (fun a b => (a, b) == (0, 1) || (a, b) == (1, 2)) [5, 5, 5, 6] [0, 0, 1, 3] [0, 1, 2, 0] = true := by
  decide
example : compOkb 4 (fun a b => (a, b) == (0, 1) || (a, b) == (1, 2)) [5, 5, 6, 6] [0, 0, 2, 2] [0, 1, 0, 1] = false := by
  decide

end Verif.Comp
