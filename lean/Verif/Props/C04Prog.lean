import Verif.Props.C04
/-!
# C04 — the whole progressive pass and every refinement split keep each row's content

`C04_progressive`: for every guide tree (any tree matrix whose rows point to existing blocks) and
whatever the profile aligner returns at each node, as long as its two index rows have one common
length and as many non-gap entries as the blocks are wide (which is C01 for the profile aligner):
if the last `seq_ord` entry is a permutation of `0 … h-1` (a valid join sequence), the re-ordered matrix
has one row per input, in input order, all of one length, and row `j` de-gaps to input `j`.

`C04_refineSplit`: one refinement split of a rectangular matrix, with any profile alignment of the
two reduced parts, gives back a rectangular matrix of the same height whose rows de-gap to what they
de-gapped to before.  By induction (`C04_history`) the same holds after any sequence of splits.
-/
namespace Verif.MSA
open Verif.SC

def Rect (block : List (List Nat)) : Prop := ∀ r ∈ block, r.length = width block

def RowsOf (g : Nat) (seqs : List (List Nat)) (block : List (List Nat)) (ord : List Nat) : Prop :=
  block.map (degap g) = ord.map fun j => degap g (seqs.getD j [])

theorem RowsOf.length {g : Nat} {seqs block : List (List Nat)} {ord : List Nat} (h : RowsOf g seqs block ord) :
    block.length = ord.length := by simpa using congrArg List.length h

theorem rect_width {block : List (List Nat)} (h : Rect block) (w : Nat) (r : List Nat) (hr : r ∈ block)
    (hw : r.length = w) : width block = w := by rw [← h r hr, hw]

theorem rect_of_forall_length {block : List (List Nat)} {w : Nat} (h : ∀ r ∈ block, r.length = w) : Rect block := by
  cases block with
  | nil => intro r hr; cases hr
  | cons x xs => intro r hr; rw [h r hr, width, List.headD_cons, h x List.mem_cons_self]

/-- the third count is of the flags block B actually receives (`fb || !fa`, the `elif` of `_align_profile`); it is C01's
count for B when the index rows have no double gap (`flagsB_of_no_double_gap`) -/
theorem flagsOkb_iff (A B : List (List Nat)) (fa fb : List Bool) :
    flagsOkb A B fa fb = true ↔ fa.length = fb.length ∧ (fa.filter id).length = width A ∧
      (((fa.zip fb).map fun p => p.2 || !p.1).filter id).length = width B := by
  simp only [flagsOkb, Bool.and_eq_true, beq_iff_eq, and_assoc]

theorem merge_rect (g : Nat) (A B : List (List Nat)) (fa fb : List Bool) (hA : Rect A) (hB : Rect B)
    (hAne : A ≠ []) (hok : flagsOkb A B fa fb = true) :
    Rect (mergeBlocks g A B fa fb) ∧ mergeBlocks g A B fa fb ≠ [] ∧
    (mergeBlocks g A B fa fb).map (degap g) = (A ++ B).map (degap g) := by
  obtain ⟨h1, h2, h3⟩ := (flagsOkb_iff A B fa fb).mp hok
  obtain ⟨m1, m2, m3⟩ := C04_merge g A B fa fb h1 (fun r hr => by rw [h2, hA r hr])
    (fun r hr => by rw [h3, hB r hr])
  refine ⟨rect_of_forall_length m1, List.ne_nil_of_length_pos ?_, m2⟩
  have := List.length_pos_iff.mpr hAne
  omega

def Blocks (P : List (List Nat) → List Nat → Prop) (st : PState) : Prop :=
  st.blocks.length = st.ords.length ∧ ∀ k, k < st.blocks.length → P (st.blocks.getD k []) (st.ords.getD k [])

theorem Blocks.push {P : List (List Nat) → List Nat → Prop} {st : PState} (h : Blocks P st) {b : List (List Nat)}
    {o : List Nat} (hb : P b o) : Blocks P ⟨st.blocks ++ [b], st.ords ++ [o]⟩ := by
  refine ⟨by simp [h.1], fun k hk => ?_⟩
  simp only [List.length_append, List.length_singleton] at hk
  rw [List.getD_eq_getElem?_getD, List.getD_eq_getElem?_getD, List.getElem?_append, List.getElem?_append, ← h.1]
  by_cases hlt : k < st.blocks.length
  · rw [if_pos hlt, if_pos hlt, ← List.getD_eq_getElem?_getD, ← List.getD_eq_getElem?_getD]
    exact h.2 k hlt
  · have hk0 : k - st.blocks.length = 0 := by omega
    rw [if_neg hlt, if_neg hlt, hk0]
    exact hb

theorem progRun_blocks (g : Nat) {P : List (List Nat) → List Nat → Prop}
    (hmerge : ∀ A B oA oB fa fb, P A oA → P B oB → flagsOkb A B fa fb = true → P (mergeBlocks g A B fa fb) (oA ++ oB)) :
    ∀ (steps : List PStep) (st : PState), Blocks P st → stepsOkb g st steps = true →
      Blocks P (steps.foldl (progStep g) st)
  | [], st, h, _ => h
  | s :: r, st, h, hok => by
    simp only [stepsOkb, stepOkb, Bool.and_eq_true, decide_eq_true_eq] at hok
    obtain ⟨⟨⟨hm, hn⟩, hf⟩, hr⟩ := hok
    exact progRun_blocks g hmerge r _ (h.push (hmerge _ _ _ _ _ _ (h.2 _ hm) (h.2 _ hn) hf)) hr

theorem progInit_blocks {P : List (List Nat) → List Nat → Prop} (seqs : List (List Nat))
    (h : ∀ j (hj : j < seqs.length), P [seqs[j]] [j]) : Blocks P (progInit seqs) := by
  refine ⟨by simp [progInit], fun k hk => ?_⟩
  simp only [progInit, List.length_map] at hk
  simpa [progInit, List.getD_eq_getElem?_getD, hk] using h k hk

theorem blocks_last {P : List (List Nat) → List Nat → Prop} {st : PState} (h : Blocks P st) :
    ∀ b ∈ st.blocks.getLast?, P b (st.ords.getLast?.getD []) := by
  intro b hb
  rw [Option.mem_def, List.getLast?_eq_getElem?] at hb
  simpa [List.getLast?_eq_getElem?, List.getD_eq_getElem?_getD, ← h.1, hb] using h.2 _ (List.getElem?_eq_some_iff.mp hb).1

/-- `ne`: the width of a merge is read off the first row of block A (`merge_noGapCol`) -/
structure Good (g : Nat) (seqs : List (List Nat)) (A : List (List Nat)) (o : List Nat) : Prop where
  rect : Rect A
  ne : A ≠ []
  rows : RowsOf g seqs A o

theorem merge_good (g : Nat) (seqs : List (List Nat)) (A B : List (List Nat)) (oA oB : List Nat) (fa fb : List Bool)
    (hA : Good g seqs A oA) (hB : Good g seqs B oB) (hok : flagsOkb A B fa fb = true) :
    Good g seqs (mergeBlocks g A B fa fb) (oA ++ oB) :=
  have ⟨mr, mne, mdg⟩ := merge_rect g A B fa fb hA.rect hB.rect hA.ne hok
  ⟨mr, mne, by rw [RowsOf, mdg, List.map_append, List.map_append, hA.rows, hB.rows]⟩

theorem single_good (g : Nat) (seqs : List (List Nat)) (j : Nat) (hj : j < seqs.length) : Good g seqs [seqs[j]] [j] := by
  refine ⟨by simp [Rect, width], by simp, ?_⟩
  simp [RowsOf, List.getD_eq_getElem?_getD, hj]

theorem progRun_good (g : Nat) (seqs : List (List Nat)) (steps : List PStep)
    (hok : stepsOkb g (progInit seqs) steps = true) : Blocks (Good g seqs) (progRun g seqs steps) :=
  progRun_blocks g (merge_good g seqs) steps _ (progInit_blocks seqs (single_good g seqs)) hok

theorem reorder_perm (ord : List Nat) (block : List (List Nat)) (hlen : block.length = ord.length) :
    (reorder ord block).Perm block := by
  have := (List.mergeSort_perm (ord.zip block) fun a b => decide (a.1 ≤ b.1)).map (·.2)
  rwa [List.map_snd_zip (Nat.le_of_eq hlen)] at this

theorem sorted_keys {α : Type} (l : List (Nat × α)) (h : Nat) (hperm : (l.map (·.1)).Perm (List.range h)) :
    (l.mergeSort fun a b => decide (a.1 ≤ b.1)).map (·.1) = List.range h := by
  refine List.Perm.eq_of_pairwise (le := (· ≤ ·)) (fun a b _ _ => Nat.le_antisymm) ?_ List.pairwise_le_range
    (((List.mergeSort_perm l _).map _).trans hperm)
  rw [List.pairwise_map]
  refine (List.pairwise_mergeSort (fun a b c hab hbc => ?_) (fun a b => ?_) l).imp (by simp)
  · simp only [decide_eq_true_eq] at hab hbc ⊢; omega
  · simp only [Bool.or_eq_true, decide_eq_true_eq]; omega

theorem reorder_rows {γ : Type} {f : List Nat → γ} {k : Nat → γ} (ord : List Nat) (block : List (List Nat)) (h : Nat)
    (e : block.map f = ord.map k) (hperm : ord.Perm (List.range h)) : (reorder ord block).map f = (List.range h).map k := by
  have hlen : block.length = ord.length := by simpa using congrArg List.length e
  rw [← sorted_keys (ord.zip block) h (by rwa [List.map_fst_zip (Nat.le_of_eq hlen.symm)]), reorder, List.map_map, List.map_map]
  refine List.map_congr_left fun p hp => ?_
  obtain ⟨i, h1, h2, rfl⟩ := mem_zip_iff_getElem.mp ((List.mergeSort_perm _ _).subset hp)
  exact getElem_of_map_eq e i h2 h1

theorem reorder_spec (g : Nat) (seqs : List (List Nat)) (block : List (List Nat)) (ord : List Nat) (h : Nat)
    (hrows : RowsOf g seqs block ord) (hrect : Rect block) (hperm : ord.Perm (List.range h)) :
    (reorder ord block).length = h ∧ (∀ r ∈ reorder ord block, r.length = width block) ∧
    ∀ j (hj : j < (reorder ord block).length), degap g (reorder ord block)[j] = degap g (seqs.getD j []) := by
  have hp := reorder_perm ord block hrows.length
  have hlen : (reorder ord block).length = h := by rw [hp.length_eq, hrows.length, hperm.length_eq, List.length_range]
  refine ⟨hlen, fun r hr => hrect r (hp.subset hr), fun j hj => ?_⟩
  have := getElem_of_map_eq (reorder_rows ord block h hrows hperm) j hj (by simpa [hlen] using hj)
  rwa [List.getElem_range] at this

theorem progressive_spec (g : Nat) (seqs : List (List Nat)) (steps : List PStep)
    (hok : stepsOkb g (progInit seqs) steps = true)
    (hperm : ((progRun g seqs steps).ords.getLast?.getD []).Perm (List.range seqs.length)) :
    (progressive g seqs steps).length = seqs.length ∧
    (∃ w, ∀ r ∈ progressive g seqs steps, r.length = w) ∧
    ∀ j (hj : j < (progressive g seqs steps).length),
      degap g (progressive g seqs steps)[j] = degap g (seqs.getD j []) := by
  have hinv := progRun_good g seqs steps hok
  have hlast := blocks_last hinv
  unfold progressive
  simp only
  generalize progRun g seqs steps = st at hinv hperm hlast
  cases hb : st.blocks.getLast? with
  | some b =>
    have hgood := hlast b hb
    obtain ⟨hlen, hw, hrows⟩ := reorder_spec g seqs _ _ seqs.length hgood.rows hgood.rect hperm
    exact ⟨hlen, ⟨_, hw⟩, hrows⟩
  | none =>
    -- no block at all: then there is no sequence either
    have hnil : st.ords = [] := List.length_eq_zero_iff.mp (by rw [← hinv.1, List.getLast?_eq_none_iff.mp hb]; rfl)
    rw [hnil] at hperm ⊢
    have h0 : seqs.length = 0 := by simpa using hperm.length_eq.symm
    simp [reorder, h0]

-- `hne` is not needed (`progressive_spec`)
set_option linter.unusedVariables false in
/-- **C04, progressive pass** -/
theorem C04_progressive (g : Nat) (seqs : List (List Nat)) (steps : List PStep) (hne : steps ≠ [])
    (hok : stepsOkb g (progInit seqs) steps = true)
    (hperm : ((progRun g seqs steps).ords.getLast?.getD []).Perm (List.range seqs.length)) :
    (progressive g seqs steps).length = seqs.length ∧
    (∃ w, ∀ r ∈ progressive g seqs steps, r.length = w) ∧
    ∀ j (hj : j < (progressive g seqs steps).length),
      degap g (progressive g seqs steps)[j] = degap g (seqs.getD j []) :=
  progressive_spec g seqs steps hok hperm

theorem reduce_rect (g : Nat) (msa : List (List Nat)) (hr : Rect msa) :
    Rect (reduceGapSites g msa) ∧ (reduceGapSites g msa).map (degap g) = msa.map (degap g) ∧
    (reduceGapSites g msa).length = msa.length := by
  obtain ⟨h1, w', h2⟩ := C04_reduce g msa (width msa) hr
  exact ⟨rect_of_forall_length h2, h1, by simpa using congrArg List.length h1⟩

theorem find_zip {α : Type} : ∀ (ks : List Nat) (vs : List α), ks.length = vs.length → ∀ i, i ∈ ks →
    ∃ (p : Nat) (hp : p < vs.length) (hk : p < ks.length), ks[p] = i ∧
      (ks.zip vs).find? (fun q => q.1 == i) = some (i, vs[p])
  | [], _, _, i, hi => by cases hi
  | k :: ks, [], h, _, _ => by simp at h
  | k :: ks, v :: vs, h, i, hi => by
    by_cases hk : k = i
    · subst hk
      exact ⟨0, by simp, by simp, rfl, by simp⟩
    · have hi' : i ∈ ks := (List.mem_cons.mp hi).resolve_left (Ne.symm hk)
      obtain ⟨p, hp, hkp, e1, e2⟩ := find_zip ks vs (by simpa using h) i hi'
      exact ⟨p + 1, Nat.succ_lt_succ hp, Nat.succ_lt_succ hkp, e1, by
        rw [List.zip_cons_cons, List.find?_cons_of_neg (by simpa using hk)]; exact e2⟩

/-- `joinRows` takes the first row with a key where `_join` keeps the last one written: the keys of a split repeat only if
`idxA` does (`SplitParts.nodup`), and then the rows with one key are equal (one row of the matrix, same reduction, same
flags).  By `hcov` the filler row is never seen. -/
theorem joinRows_spec {γ : Type} {f : List Nat → γ} {k : Nat → γ} (height w : Nat) (keys : List Nat) (vals : List (List Nat))
    (e : vals.map f = keys.map k) (hcov : ∀ i, i < height → i ∈ keys) :
    (∀ r ∈ joinRows height w (keys.zip vals), r ∈ vals) ∧
    (joinRows height w (keys.zip vals)).map f = (List.range height).map k := by
  have hrow : ∀ i ∈ List.range height, ∃ v ∈ vals, f v = k i ∧
      (((keys.zip vals).find? fun p => p.1 == i).map (·.2)).getD (List.replicate w 0) = v := by
    intro i hi
    have hlen : keys.length = vals.length := by simpa using (congrArg List.length e).symm
    obtain ⟨p, hp, hk, e1, e2⟩ := find_zip keys vals hlen i (hcov i (List.mem_range.mp hi))
    exact ⟨vals[p], List.getElem_mem hp, e1 ▸ getElem_of_map_eq e p hp hk, by rw [e2]; rfl⟩
  rw [joinRows, List.forall_mem_map, List.map_map]
  constructor
  · intro i hi
    obtain ⟨v, hv, -, e2⟩ := hrow i hi
    exact e2 ▸ hv
  · refine List.map_congr_left fun i hi => ?_
    obtain ⟨v, -, e1, e2⟩ := hrow i hi
    simp only [Function.comp, e2, e1]

theorem rect_pick (msa : List (List Nat)) (hr : Rect msa) (idx : List Nat) (hidx : ∀ i ∈ idx, i < msa.length) :
    Rect (idx.map fun i => msa.getD i []) := by
  refine rect_of_forall_length (w := width msa) fun r hrm => ?_
  obtain ⟨i, hi, rfl⟩ := List.mem_map.mp hrm
  rw [← List.getElem_eq_getD (h := hidx i hi)]
  exact hr _ (List.getElem_mem _)

/-- `_split`, `_align_profile`, `_join` taken apart: `_join` puts row `p` of the merged block at index `keys[p]` -/
structure SplitParts (g : Nat) (msa : List (List Nat)) (idxA : List Nat) (fa fb : List Bool)
    (keys : List Nat) (partA partB : List (List Nat)) : Prop where
  join : refineSplit g msa idxA fa fb =
    joinRows msa.length (width (mergeBlocks g (reduceGapSites g partA) (reduceGapSites g partB) fa fb))
      (keys.zip (mergeBlocks g (reduceGapSites g partA) (reduceGapSites g partB) fa fb))
  cover : ∀ i, i < msa.length ↔ i ∈ keys
  nodup : idxA.Nodup → keys.Nodup
  good : Good g msa (mergeBlocks g (reduceGapSites g partA) (reduceGapSites g partB) fa fb) keys
  rectA : Rect partA
  rectB : Rect partB
  neA : reduceGapSites g partA ≠ []
  flags : flagsOkb (reduceGapSites g partA) (reduceGapSites g partB) fa fb = true

theorem refineSplit_parts (g : Nat) (msa : List (List Nat)) (hr : Rect msa) (idxA : List Nat) (fa fb : List Bool)
    (hok : splitOkb g msa idxA fa fb = true) :
    ∃ (keys : List Nat) (partA partB : List (List Nat)), SplitParts g msa idxA fa fb keys partA partB := by
  simp only [splitOkb, Bool.and_eq_true, Bool.not_eq_true', List.isEmpty_eq_false_iff, List.all_eq_true,
    decide_eq_true_eq] at hok
  obtain ⟨⟨hne, hlt⟩, hf⟩ := hok
  generalize hB : (List.range msa.length).filter (fun i => !idxA.contains i) = idxB at hf
  have hmemB : ∀ i, i ∈ idxB ↔ i < msa.length ∧ i ∉ idxA := by
    intro i; rw [← hB]; simp [List.mem_filter]
  have rA := rect_pick msa hr idxA hlt
  have rB := rect_pick msa hr idxB fun i hi => ((hmemB i).mp hi).1
  obtain ⟨ra1, ra2, ra3⟩ := reduce_rect g _ rA
  obtain ⟨rb1, rb2, -⟩ := reduce_rect g _ rB
  have hAne : reduceGapSites g (idxA.map fun i => msa.getD i []) ≠ [] :=
    List.ne_nil_of_length_pos (by rw [ra3, List.length_map]; exact List.length_pos_iff.mpr hne)
  obtain ⟨mr, mne, mdg⟩ := merge_rect g _ _ fa fb ra1 rb1 hAne hf
  exact ⟨idxA ++ idxB, _, _,
    { join := by simp only [refineSplit, hB, width]
      cover := fun i => by
        rw [List.mem_append, hmemB]
        exact ⟨fun hi => (Classical.em (i ∈ idxA)).imp id fun h => ⟨hi, h⟩, fun h => h.elim (hlt i) (·.1)⟩
      nodup := fun hnd => List.nodup_append.mpr
        ⟨hnd, hB ▸ List.nodup_range.filter _, fun a ha b hb hab => ((hmemB b).mp hb).2 (hab ▸ ha)⟩
      good := ⟨mr, mne, by
        rw [RowsOf, mdg, List.map_append, ra2, rb2]
        simp [List.map_map, Function.comp_def]⟩
      rectA := rA
      rectB := rB
      neA := hAne
      flags := hf }⟩

/-- **C04, one refinement split** -/
theorem C04_refineSplit (g : Nat) (msa : List (List Nat)) (hr : Rect msa) (idxA : List Nat) (fa fb : List Bool)
    (hok : splitOkb g msa idxA fa fb = true) :
    (refineSplit g msa idxA fa fb).length = msa.length ∧ Rect (refineSplit g msa idxA fa fb) ∧
    (refineSplit g msa idxA fa fb).map (degap g) = msa.map (degap g) := by
  obtain ⟨keys, _, _, parts⟩ := refineSplit_parts g msa hr idxA fa fb hok
  obtain ⟨hsub, hmap⟩ := joinRows_spec msa.length _ keys _ parts.good.rows fun i hi => (parts.cover i).mp hi
  rw [← parts.join] at hsub hmap
  refine ⟨?_, rect_of_forall_length fun r hrm => parts.good.rect r (hsub r hrm), hmap.trans ?_⟩
  · simp [refineSplit, joinRows]
  · simpa [Function.comp_def] using congrArg (List.map (degap g)) (map_getD_range [] msa)

theorem hist_fold (g : Nat) {P : List (List Nat) → Prop} : ∀ (hist : List Split),
    (∀ m, ∀ s ∈ hist, P m → splitOkb g m s.1 s.2.1 s.2.2 = true → P (refineSplit g m s.1 s.2.1 s.2.2)) →
    ∀ (m : List (List Nat)), P m → histOkb g m hist = true → P (hist.foldl (fun m s => refineSplit g m s.1 s.2.1 s.2.2) m)
  | [], _, _, h, _ => h
  | s :: r, hstep, m, h, hok => by
    simp only [histOkb, Bool.and_eq_true] at hok
    exact hist_fold g r (fun m s hs => hstep m s (List.mem_cons_of_mem _ hs)) _ (hstep m s List.mem_cons_self h hok.1) hok.2

/-- **C04, any sequence of refinement splits** -/
theorem C04_history (g : Nat) : ∀ (hist : List Split) (msa : List (List Nat)), Rect msa → histOkb g msa hist = true →
    let out := hist.foldl (fun m s => refineSplit g m s.1 s.2.1 s.2.2) msa
    out.length = msa.length ∧ Rect out ∧ out.map (degap g) = msa.map (degap g) := by
  intro hist msa hr hok
  refine hist_fold g (P := fun out => out.length = msa.length ∧ Rect out ∧ out.map (degap g) = msa.map (degap g)) hist
    (fun m s _ ⟨h1, h2, h3⟩ hs => ?_) msa ⟨rfl, hr, rfl⟩ hok
  obtain ⟨i1, i2, i3⟩ := C04_refineSplit g m h2 s.1 s.2.1 s.2.2 hs
  exact ⟨i1.trans h1, i2, i3.trans h3⟩

/-- the decidable form used by the harness on every observed run -/
theorem C04_progressive_observed (g : Nat) (seqs : List (List Nat)) (steps : List PStep)
    (hok : progOkb g seqs steps = true) :
    (progressive g seqs steps).length = seqs.length ∧
    (∃ w, ∀ r ∈ progressive g seqs steps, r.length = w) ∧
    ∀ j (hj : j < (progressive g seqs steps).length),
      degap g (progressive g seqs steps)[j] = degap g (seqs.getD j []) := by
  simp only [progOkb, Bool.and_eq_true, Bool.not_eq_true', List.isEmpty_eq_false_iff, List.isPerm_iff] at hok
  exact progressive_spec g seqs steps hok.1.2 hok.2

/-- `rectb` is what the driver evaluates before every observed split -/
theorem rectb_iff (msa : List (List Nat)) : rectb msa = true ↔ Rect msa := by
  simp [rectb, Rect, List.all_eq_true]

end Verif.MSA
