import Verif.Model.TreeBuild
import Verif.Lemmas.Cluster
import Verif.Props.C05
/-!
# C09 — structure of the UPGMA join sequence

For every matrix, carrier and pick rule: every join removes two clusters and adds their union
under a fresh id, the taxa are never lost or duplicated, and for `n ≥ 1` taxa the builder stops
after exactly `n − 1` joins with a single cluster holding every taxon once.
-/
namespace Verif.TreeBuild
open Verif.Align Verif.Cluster ScoreOps
variable {S : Type} [ScoreOps S]

theorem erase_two_perm (cs : St) (p q : Nat) (hp : p < cs.length) (hq : q < cs.length) (hne : p ≠ q) :
    (cs[p] :: cs[q] :: (cs.eraseIdx (max p q)).eraseIdx (min p q)).Perm cs ∧
      ((cs.eraseIdx (max p q)).eraseIdx (min p q)).length + 2 = cs.length := by
  suffices h : (cs[p] :: cs[q] :: (cs.eraseIdx (max p q)).eraseIdx (min p q)).Perm cs from ⟨h, h.length_eq⟩
  have key : ∀ (lo hi : Nat) (hlo : lo < hi) (hhi : hi < cs.length),
      (cs[lo]'(by omega) :: cs[hi] :: (cs.eraseIdx hi).eraseIdx lo).Perm cs := by
    intro lo hi hlo hhi
    have hlo' : lo < (cs.eraseIdx hi).length := by rw [List.length_eraseIdx_of_lt hhi]; omega
    have h2 := cons_cons_eraseIdx_perm hhi hlo'
    rwa [List.getElem_eraseIdx_of_lt hlo' hlo] at h2
  rcases Nat.lt_or_gt_of_ne hne with h | h
  · rw [Nat.max_eq_right (Nat.le_of_lt h), Nat.min_eq_left (Nat.le_of_lt h)]
    exact key p q h hq
  · rw [Nat.max_eq_left (Nat.le_of_lt h), Nat.min_eq_right (Nat.le_of_lt h)]
    exact (List.Perm.swap _ _ _).trans (key q p h hp)

theorem upgmaStep_eq (lastMin : Bool) (M : Nat → Nat → S) (st st' : UState S)
    (h : upgmaStep lastMin M st = some st') :
    ∃ (p q : Nat) (hp : p < st.clusters.length) (hq : q < st.clusters.length) (m : S) (rest : St), p ≠ q ∧
      argMin lastMin (pairScores ⟨.average, lastMin, false⟩ M st.clusters) = some ((p, q), m) ∧
      m = linkage .average M st.clusters[p].2 st.clusters[q].2 ∧
      (st.clusters[p] :: st.clusters[q] :: rest).Perm st.clusters ∧
      st' = { clusters := rest ++ [((st.clusters.map (·.1)).foldl max 0 + 1, st.clusters[p].2 ++ st.clusters[q].2)],
              heights := st.heights ++ [((st.clusters.map (·.1)).foldl max 0 + 1, div m two)],
              rows := st.rows ++ [(st.clusters[p].1, st.clusters[q].1,
                sub (div m two) (heightOf st.heights st.clusters[p].1),
                sub (div m two) (heightOf st.heights st.clusters[q].1))] } := by
  unfold upgmaStep at h
  split at h
  · cases h
  · split at h
    · cases h
    · rename_i p q m heq
      obtain ⟨hp, hq, hne, hm⟩ := pairScores_valid _ M st.clusters _ (argMin_mem _ _ _ heq)
      simp only at hp hq hne hm
      simp only [Option.some.injEq, List.getD_eq_getElem?_getD, List.getElem?_eq_getElem hp,
        List.getElem?_eq_getElem hq, Option.getD_some] at h
      exact ⟨p, q, hp, hq, m, _, hne, heq, hm, (erase_two_perm st.clusters p q hp hq hne).1, h.symm⟩

theorem upgmaStep_spec (lastMin : Bool) (M : Nat → Nat → S) (st st' : UState S)
    (h : upgmaStep lastMin M st = some st') :
    (items st'.clusters).Perm (items st.clusters) ∧ st'.clusters.length + 1 = st.clusters.length ∧
    st'.rows.length = st.rows.length + 1 := by
  obtain ⟨p, q, hp, hq, m, rest, _hne, _hpick, _hval, hperm, rfl⟩ := upgmaStep_eq lastMin M st st' h
  refine ⟨?items, ?len, by simp⟩
  case len =>
    have hlen := hperm.length_eq
    simp only [List.length_cons, List.length_append, List.length_nil] at hlen ⊢
    omega
  have e : items (rest ++ [((st.clusters.map (·.1)).foldl max 0 + 1, st.clusters[p].2 ++ st.clusters[q].2)]) =
      items rest ++ (st.clusters[p].2 ++ st.clusters[q].2) := by simp [items, List.flatMap_append]
  rw [e]
  exact List.perm_append_comm.trans (by simpa [items, List.flatMap_cons] using items_perm hperm)

theorem argMin_none (lm : Bool) (l : List ((Nat × Nat) × S)) (h : argMin lm l = none) : l = [] := by
  cases l with
  | nil => rfl
  | cons x xs => simp [argMin] at h

theorem upgmaStep_none (lastMin : Bool) (M : Nat → Nat → S) (st : UState S) (h : st.clusters.length ≤ 1) :
    upgmaStep lastMin M st = none := by
  simp [upgmaStep, h]

theorem upgmaStep_some (lastMin : Bool) (M : Nat → Nat → S) (st : UState S) (h : 2 ≤ st.clusters.length) :
    ∃ st', upgmaStep lastMin M st = some st' := by
  unfold upgmaStep
  rw [if_neg (by omega)]
  cases ha : argMin lastMin (pairScores ⟨.average, lastMin, false⟩ M st.clusters) with
  | some x => obtain ⟨⟨p, q⟩, m⟩ := x; exact ⟨_, rfl⟩
  | none =>
    -- positions 0 and 1 are scored by the ordered-pair scan
    have hm := pairScores_complete ⟨.average, lastMin, false⟩ rfl M st.clusters 0 1 (by omega) (by omega) (by omega)
    rw [argMin_none _ _ ha] at hm
    cases hm

/-- `upgmaRun` and `njRun` are this loop for their step functions -/
def iter {σ : Type} (step : σ → Option σ) : Nat → σ → σ
  | 0, s => s
  | n+1, s => match step s with
    | none => s
    | some s' => iter step n s'

theorem iter_inv {σ : Type} (step : σ → Option σ) (P : σ → Prop) (hstep : ∀ s s', P s → step s = some s' → P s') :
    ∀ (n : Nat) (s : σ), P s → P (iter step n s)
  | 0, _, h => h
  | n+1, s, h => by
    unfold iter
    split
    next => exact h
    next s' hs => exact iter_inv step P hstep n s' (hstep s s' h hs)

theorem iter_joins {σ : Type} (step : σ → Option σ) (len rows : σ → Nat)
    (hspec : ∀ s s', step s = some s' → len s' + 1 = len s ∧ rows s' = rows s + 1)
    (hsome : ∀ s, 2 ≤ len s → ∃ s', step s = some s') (hnone : ∀ s, len s ≤ 1 → step s = none) :
    ∀ (n : Nat) (s : σ), 1 ≤ len s → len s ≤ n + 1 →
      len (iter step n s) = 1 ∧ rows (iter step n s) + 1 = rows s + len s
  | 0, s, h1, h2 => by unfold iter; omega
  | n+1, s, h1, h2 => by
    unfold iter
    split
    · rename_i hn
      have : ¬ 2 ≤ len s := fun h => by
        obtain ⟨s', hs⟩ := hsome s h
        rw [hn] at hs
        cases hs
      omega
    · rename_i s' hs
      have : ¬ len s ≤ 1 := fun h => by
        rw [hnone s h] at hs
        cases hs
      obtain ⟨hl, hr⟩ := hspec s s' hs
      have := iter_joins step len rows hspec hsome hnone n s' (by omega) (by omega)
      omega

theorem upgmaRun_eq_iter (lastMin : Bool) (M : Nat → Nat → S) :
    ∀ (n : Nat) (st : UState S), upgmaRun lastMin M n st = iter (upgmaStep lastMin M) n st
  | 0, _ => rfl
  | n+1, st => by
    unfold upgmaRun iter
    cases upgmaStep lastMin M st with
    | none => rfl
    | some st' => exact upgmaRun_eq_iter lastMin M n st'

theorem upgma_inv (lastMin : Bool) (M : Nat → Nat → S) (n : Nat) (P : UState S → Prop)
    (h0 : P ⟨init n, (List.range n).map fun i => (i, zero), []⟩)
    (hstep : ∀ st st', P st → upgmaStep lastMin M st = some st' → P st') : P (upgma lastMin M n) := by
  unfold upgma
  rw [upgmaRun_eq_iter]
  exact iter_inv _ P hstep n _ h0

/-- **C09, structure (UPGMA)** -/
theorem C09_upgma_structure (lastMin : Bool) (M : Nat → Nat → S) (n : Nat) (hn : 1 ≤ n) :
    (items (upgma lastMin M n).clusters).Perm (List.range n) ∧
    (upgma lastMin M n).clusters.length = 1 ∧ (upgma lastMin M n).rows.length = n - 1 := by
  have hp := upgma_inv lastMin M n (fun st => (items st.clusters).Perm (List.range n)) (by rw [items_init])
    fun st st' h hs => (upgmaStep_spec lastMin M st st' hs).1.trans h
  unfold upgma at hp ⊢
  rw [upgmaRun_eq_iter] at hp ⊢
  have hj := iter_joins (upgmaStep lastMin M) (·.clusters.length) (·.rows.length)
    (fun st st' hs => (upgmaStep_spec lastMin M st st' hs).2) (upgmaStep_some lastMin M) (upgmaStep_none lastMin M)
    n ⟨init n, (List.range n).map fun i => (i, zero), []⟩ (by simpa [init]) (by simp [init])
  simp only [show (init n).length = n by simp [init], List.length_nil] at hj
  exact ⟨hp, hj.1, by omega⟩

theorem upgma_root (lastMin : Bool) (M : Nat → Nat → S) (n : Nat) (hn : 1 ≤ n) :
    ∃ root members, (upgma lastMin M n).clusters = [(root, members)] ∧ members.Perm (List.range n) := by
  obtain ⟨hperm, hlen, _⟩ := C09_upgma_structure lastMin M n hn
  generalize upgma lastMin M n = st at hperm hlen
  match hc : st.clusters, hlen with
  | [(root, members)], _ => exact ⟨root, members, rfl, by simpa [items, hc] using hperm⟩

end Verif.TreeBuild
