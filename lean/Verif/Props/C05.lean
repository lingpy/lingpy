import Verif.Lemmas.Cluster
/-!
# C05 — flat clustering returns a partition; C10 — raising the threshold only merges

Law-free part (any score carrier, any linkage, any pick rule, ordered or unordered scan):
the result is a partition of the items in both output orientations, the run at a lower
threshold refines the run at a higher one (C10), and the result is terminal for the
step function.
-/
namespace Verif.Cluster
open Verif.Align ScoreOps
variable {S : Type} [ScoreOps S]

def items (cs : St) : List Nat := cs.flatMap (·.2)

theorem items_init (n : Nat) : items (init n) = List.range n := by
  simp [items, init, List.flatMap_map]

theorem items_perm {cs cs' : St} (h : cs.Perm cs') : (items cs).Perm (items cs') :=
  List.Perm.flatMap_right _ h

theorem items_next (cfg : Cfg) (M : Nat → Nat → S) (cs cs' : St) (m : S)
    (h : next cfg M cs = some (m, cs')) : (items cs').Perm (items cs) := by
  obtain ⟨a, b, rest, h1, h2, _⟩ := next_perm cfg M cs cs' m h
  have e : items ((a.1, a.2 ++ b.2) :: rest) = items (a :: b :: rest) := by
    simp [items, List.flatMap_cons]
  exact (items_perm h2).trans (e ▸ items_perm h1)

theorem items_run (cfg : Cfg) (M : Nat → Nat → S) (t : S) (n : Nat) (cs : St) :
    (items (run cfg M t n cs)).Perm (items cs) :=
  run_inv (fun s => (items s).Perm (items cs)) cfg M t
    (fun s m s' h hn _ => (items_next cfg M s s' m hn).trans h) n cs (List.Perm.refl _)

/-- **C05, partition**: every item is in exactly one returned cluster. -/
theorem C05_partition (cfg : Cfg) (M : Nat → Nat → S) (t : S) (n : Nat) :
    (items (flatCluster cfg M t n)).Perm (List.range n) :=
  items_init n ▸ items_run cfg M t n (init n)

/-- … and in the reverted orientation (`revert=True`: item ↦ label): each item gets exactly
one label, namely key + 1 ≥ 1 of its cluster. -/
theorem C05_partition_revert (cfg : Cfg) (M : Nat → Nat → S) (t : S) (n : Nat) :
    ((revert (flatCluster cfg M t n)).map (·.1)).Perm (List.range n) ∧
    ∀ x ∈ revert (flatCluster cfg M t n), 1 ≤ x.2 ∧
      ∃ c ∈ flatCluster cfg M t n, x.1 ∈ c.2 ∧ x.2 = c.1 + 1 := by
  constructor
  · have : (revert (flatCluster cfg M t n)).map (·.1) = items (flatCluster cfg M t n) := by
      simp [revert, items, List.map_flatMap, List.map_map, Function.comp_def]
    rw [this]
    exact C05_partition cfg M t n
  · intro x hx
    simp only [revert, List.mem_flatMap, List.mem_map] at hx
    obtain ⟨c, hc, i, hi, rfl⟩ := hx
    exact ⟨by simp, c, hc, hi, rfl⟩

def Refines (cs cs' : St) : Prop := ∀ c ∈ cs, ∃ c' ∈ cs', ∀ x ∈ c.2, x ∈ c'.2

theorem Refines.refl (cs : St) : Refines cs cs := fun c hc => ⟨c, hc, fun _ h => h⟩

theorem Refines.trans {a b c : St} (h1 : Refines a b) (h2 : Refines b c) : Refines a c := by
  intro x hx
  obtain ⟨y, hy, hxy⟩ := h1 x hx
  obtain ⟨z, hz, hyz⟩ := h2 y hy
  exact ⟨z, hz, fun i hi => hyz i (hxy i hi)⟩

theorem refines_mergeAt (cs : St) (p q : Nat) (hp : p < cs.length) (hq : q < cs.length) (hne : p ≠ q) :
    Refines cs (mergeAt cs p q) := by
  obtain ⟨rest, h1, h2, _⟩ := mergeAt_perm cs p q hp hq hne
  intro c hc
  have hc' := h1.symm.mem_iff.mp hc
  simp only [List.mem_cons] at hc'
  rcases hc' with rfl | rfl | hr
  · exact ⟨_, h2.symm.mem_iff.mp (List.mem_cons_self), fun x hx => List.mem_append_left _ hx⟩
  · exact ⟨_, h2.symm.mem_iff.mp (List.mem_cons_self), fun x hx => List.mem_append_right _ hx⟩
  · exact ⟨c, h2.symm.mem_iff.mp (List.mem_cons_of_mem _ hr), fun _ h => h⟩

theorem refines_of_isMergeb {cs cs' : St} (h : isMergeb cs cs' = true) : Refines cs cs' := by
  simp only [isMergeb, List.any_eq_true, List.mem_range, Bool.and_eq_true, bne_iff_ne, ne_eq, beq_iff_eq] at h
  obtain ⟨p, hp, q, hq, hne, rfl⟩ := h
  exact refines_mergeAt cs p q hp hq hne

theorem refines_next (cfg : Cfg) (M : Nat → Nat → S) (cs cs' : St) (m : S)
    (h : next cfg M cs = some (m, cs')) : Refines cs cs' := by
  obtain ⟨p, q, hp, hq, hne, rfl, _, _⟩ := next_spec cfg M cs m cs' h
  exact refines_mergeAt cs p q hp hq hne

theorem refines_run (cfg : Cfg) (M : Nat → Nat → S) (t : S) (n : Nat) (cs : St) :
    Refines cs (run cfg M t n cs) :=
  run_inv (Refines cs) cfg M t (fun s m s' h hn _ => h.trans (refines_next cfg M s s' m hn)) n cs
    (Refines.refl _)

/-- **C10**: the run at `t₁` refines the run at `t₂` whenever every value accepted at `t₁` is accepted at `t₂` (that is what
`t₁ ≤ t₂` means for the comparison the code performs).  Holds for every linkage – nothing
about the linkage function, not even reducibility, is used: the merge sequence does not
depend on the threshold. -/
theorem C10_refines (cfg : Cfg) (M : Nat → Nat → S) (t1 t2 : S)
    (hle : ∀ m, le m t1 = true → le m t2 = true) (n : Nat) (cs : St) :
    Refines (run cfg M t1 n cs) (run cfg M t2 n cs) := by
  -- a step of the lower run is a step of the upper run; where the lower run stops, the upper one goes on from there
  fun_induction run cfg M t1 n cs with
  | case3 n cs m cs' hn hm ih => simpa only [run, hn, hm, hle m hm, if_true] using ih
  | _ => exact refines_run cfg M t2 _ _

theorem C10_flatCluster (cfg : Cfg) (M : Nat → Nat → S) (t1 t2 : S)
    (hle : ∀ m, le m t1 = true → le m t2 = true) (n : Nat) :
    Refines (flatCluster cfg M t1 n) (flatCluster cfg M t2 n) :=
  C10_refines cfg M t1 t2 hle n (init n)

theorem trace_cons (cfg : Cfg) (M : Nat → Nat → S) (t : S) (n : Nat) (cs : St) :
    ∃ l, trace cfg M t n cs = cs :: l := by
  fun_induction trace cfg M t n cs <;> exact ⟨_, rfl⟩

/-- **C10**: the merge sequence at the lower threshold is a prefix of the one at the higher -/
theorem C10_trace_prefix (cfg : Cfg) (M : Nat → Nat → S) (t1 t2 : S)
    (hle : ∀ m, le m t1 = true → le m t2 = true) (n : Nat) (cs : St) :
    trace cfg M t1 n cs <+: trace cfg M t2 n cs := by
  fun_induction trace cfg M t1 n cs with
  | case3 n cs m cs' hn hm ih =>
    simpa only [trace, hn, hm, hle m hm, if_true, List.prefix_cons_inj] using ih
  | _ => exact (trace_cons cfg M t2 _ _).elim fun l hl => ⟨l, hl.symm⟩

/-- **C10 over an observed trace**: if every recorded step is a merge of two entries, every
recorded state refines every later one.  (The harness checks separately that the trace recorded
at `t₁` is a prefix of the one recorded at `t₂`.) -/
theorem C10_of_observed (tr : List St) (h : chainOkb tr = true) :
    ∀ k (hk : k < tr.length), ∀ l (hl : l < tr.length), k ≤ l → Refines tr[k] tr[l] := by
  fun_induction chainOkb tr with
  | case1 => intro k hk; simp at hk
  | case2 a =>
    intro k hk l hl _
    obtain rfl : k = 0 := by simpa using hk
    obtain rfl : l = 0 := by simpa using hl
    exact Refines.refl _
  | case3 a b rest ih =>
    simp only [Bool.and_eq_true] at h
    rintro (_ | k) hk (_ | l) hl hkl
    · exact Refines.refl _
    · exact (refines_of_isMergeb h.1).trans (ih h.2 0 (by simp) l (by simpa using hl) (Nat.zero_le l))
    · omega
    · exact ih h.2 k (by simpa using hk) l (by simpa using hl) (by omega)

def Terminal (cfg : Cfg) (M : Nat → Nat → S) (t : S) (cs : St) : Prop :=
  match next cfg M cs with
  | none => True
  | some (m, _) => le m t = false

/-- the `Nat` of `run` is fuel; a merge shortens the state by one, so `n` steps are enough from the `n` singletons -/
theorem run_terminal (cfg : Cfg) (M : Nat → Nat → S) (t : S) (n : Nat) (cs : St) (hn : cs.length ≤ n + 1) :
    Terminal cfg M t (run cfg M t n cs) := by
  fun_induction run cfg M t n cs with
  | case1 cs => simp [Terminal, next, hn]  -- one cluster is left
  | case2 n cs h => simp only [Terminal, h]
  | case3 n cs m cs' h hm ih =>
    have := next_length cfg M cs cs' m h
    exact ih (by omega)
  | case4 n cs m cs' h hm => simpa [Terminal, h] using hm

/-- **C05, stop**: the returned state is terminal – the clusterer does not stop early. -/
theorem C05_terminal (cfg : Cfg) (M : Nat → Nat → S) (t : S) (n : Nat) :
    Terminal cfg M t (flatCluster cfg M t n) :=
  run_terminal cfg M t n (init n) (by simp [init])

end Verif.Cluster
