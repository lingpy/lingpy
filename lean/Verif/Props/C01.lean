import Verif.Lemmas.Run
/-!
# C01 — pairwise alignment never alters, drops or reorders the input segments

The theorems hold for **every** configuration `cfg` of the kernel family
(all modes, primary/secondary, all tie rules, all three flavours `_calign`/`_talign`/`_malign`)
and every score carrier `S` (no laws: IEEE doubles with NaN included).
-/
namespace Verif.Align
open ScoreOps
variable {S : Type} [ScoreOps S]

/-- The rows the Python kernel returns: `none` is printed as the gap symbol. -/
def rowA (cols : List (Col Nat)) : List (Option Nat) := cols.map (·.1)
def rowB (cols : List (Col Nat)) : List (Option Nat) := cols.map (·.2)

variable [Inhabited S]

/-- **C01 over an observed table (global type).**  Whatever move table a kernel filled –
by whatever scoring – if its first row and column pass the decidable border check, the
traceback loop returns lossless rows. -/
theorem C01_of_table_global {α : Type} (tb : Nat → Nat → Nat) (a b : List α)
    (hb : bordersGb tb b.length a.length = true) :
    ∃ cols, tbGlobal tb a b b.length a.length [] = some cols ∧
      degapA cols = a ∧ degapB cols = b ∧ NoDoubleGap cols := by
  have hB : BordersG tb b.length a.length := by
    simp only [bordersGb, Bool.and_eq_true, List.all_eq_true, List.mem_range, bne_iff_ne, ne_eq,
      beq_iff_eq] at hb
    exact ⟨hb.1, hb.2⟩
  obtain ⟨cols, h1, h2, h3, h4, _⟩ :=
    tbGlobal_spec tb a b b.length a.length (Nat.le_refl _) (Nat.le_refl _) hB
      b.length a.length [] (Nat.le_refl _) (Nat.le_refl _)
  exact ⟨cols, by simpa using h1, by simpa using h2, by simpa using h3, h4⟩

/-- **C01 over an observed table (local type)**, for any start cell `(k,l)` inside the table. -/
theorem C01_of_table_local {α : Type} (tb : Nat → Nat → Nat) (a b : List α) (k l : Nat)
    (hk : k ≤ b.length) (hl : l ≤ a.length)
    (hb : bordersLb tb b.length a.length = true) :
    ∃ i0 j0 cols, tbLocal tb a b k l [] = some (i0, j0, cols) ∧
      a.take j0 ++ degapA cols ++ a.drop l = a ∧ b.take i0 ++ degapB cols ++ b.drop k = b ∧
      NoDoubleGap cols := by
  have hB : BordersL tb b.length a.length := by
    simp only [bordersLb, Bool.and_eq_true, List.all_eq_true, List.mem_range, bne_iff_ne, ne_eq] at hb
    constructor
    · intro j hj; exact hb.1 j (by omega)
    · intro i hi; exact hb.2 i (by omega)
  obtain ⟨i0, j0, cols, h1, _, _, h2, h3, h4, _⟩ :=
    tbLocal_spec tb a b b.length a.length (Nat.le_refl _) (Nat.le_refl _) hB k l [] hk hl
  refine ⟨i0, j0, cols, by simpa using h1, ?_, ?_, h4⟩
  · rw [h2, List.take_append_drop]
  · rw [h3, List.take_append_drop]

/-- **C01, global / overlap / dialign.**  For every non-empty pair the kernel succeeds and the
returned columns de-gap to the two inputs, with no column of two gaps (rows have equal
length by construction: they are the two projections of one column list). -/
theorem C01_rows (cfg : Cfg) (inp : Input S) (h : cfg.mode ≠ .local)
    (ha : inp.a ≠ []) (hb : inp.b ≠ []) :
    ∃ cols sim, run cfg inp = .glob cols sim ∧
      degapA cols = inp.a ∧ degapB cols = inp.b ∧ NoDoubleGap cols ∧
      (rowA cols).length = (rowB cols).length := by
  obtain ⟨cols, h1, h2, h3, h4, _⟩ :=
    tbGlobal_spec _ inp.a inp.b inp.N inp.M (Nat.le_refl _) (Nat.le_refl _)
      (bordersG_of_fill cfg inp h inp.N) inp.N inp.M [] (Nat.le_refl _) (Nat.le_refl _)
  rw [List.append_nil] at h1
  exact ⟨cols, _, by rw [run_glob cfg inp h ha hb, h1], by simpa [Input.M] using h2,
    by simpa [Input.N] using h3, h4, by simp [rowA, rowB]⟩

/-- **C01, local mode.**  Whenever the kernel returns, prefix + aligned part + suffix of
each row concatenate to the input, the aligned parts have no double gap and equal length. -/
theorem C01_local (cfg : Cfg) (inp : Input S) (h : cfg.mode = .local)
    (i0 j0 k l : Nat) (cols : List (Col Nat)) (sim : S)
    (hr : run cfg inp = .loc i0 j0 k l cols sim) :
    inp.a.take j0 ++ degapA cols ++ inp.a.drop l = inp.a ∧
    inp.b.take i0 ++ degapB cols ++ inp.b.drop k = inp.b ∧
    NoDoubleGap cols ∧ (rowA cols).length = (rowB cols).length := by
  obtain ⟨_, _, hk, hl, htb, _⟩ := run_loc cfg inp h hr
  obtain ⟨i1, j1, cs, h1, _, _, h2, h3, h4, _⟩ :=
    tbLocal_spec _ inp.a inp.b inp.N inp.M (Nat.le_refl _) (Nat.le_refl _)
      (bordersL_of_fill cfg inp h inp.N) k l [] hk hl
  rw [List.append_nil] at h1
  obtain ⟨rfl, rfl, rfl⟩ : i1 = i0 ∧ j1 = j0 ∧ cs = cols := by simpa using h1.symm.trans htb
  exact ⟨by rw [h2, List.take_append_drop], by rw [h3, List.take_append_drop], h4, by simp [rowA, rowB]⟩

end Verif.Align
