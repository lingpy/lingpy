import Verif.Model.Newick
/-!
# C15 — parsing the Newick text of a tree gives the tree back

`C15_newick_roundtrip`: for every tree whose internal nodes have at least one child, parsing the
printed token sequence (with enough fuel, followed by anything) returns exactly the tree – same
leaves, same nesting, same order of children – and leaves the rest of the input untouched.  Hence the
leaf list and the clades of the parsed tree are those of the original (`C15_newick_clades`).
-/
namespace Verif.Newick
open Verif.TreeDist

mutual
def nonEmpty : Tree → Bool
  | .leaf _ => true
  | .node cs => !cs.isEmpty && nonEmptyL cs
def nonEmptyL : List Tree → Bool
  | [] => true
  | t :: ts => nonEmpty t && nonEmptyL ts
end

mutual
theorem parse_print : ∀ (t : Tree), nonEmpty t = true → ∀ (rest : List Tok) (f : Nat),
    (print t).length + 1 ≤ f → parse f (print t ++ rest) = some (t, rest)
  | _, _, _, 0, hf => absurd hf (Nat.not_succ_le_zero _)
  | .leaf n, _, rest, g+1, _ => by simp [print, parse]
  | .node cs, h, rest, g+1, hf => by
    simp only [nonEmpty, Bool.and_eq_true, Bool.not_eq_true', List.isEmpty_eq_false_iff] at h
    simp only [print, List.length_cons, List.length_append, List.length_nil] at hf
    have := parseL_print cs h.1 h.2 rest g (by omega)
    simp only [print, List.cons_append, List.append_assoc, List.nil_append, parse, this]
theorem parseL_print : ∀ (ts : List Tree), ts ≠ [] → nonEmptyL ts = true → ∀ (rest : List Tok) (f : Nat),
    (printL ts).length + 2 ≤ f → parseL f (printL ts ++ .rpar :: rest) = some (ts, rest)
  | _, _, _, _, 0, hf => absurd hf (Nat.not_succ_le_zero _)
  | [], h, _, _, _, _ => absurd rfl h
  | [t], _, hne, rest, g+1, hf => by
    simp only [nonEmptyL, Bool.and_eq_true] at hne
    simp only [printL] at hf ⊢
    simp only [parseL, parse_print t hne.1 (.rpar :: rest) g (by omega)]
  | t :: t' :: ts, _, hne, rest, g+1, hf => by
    simp only [nonEmptyL, Bool.and_eq_true] at hne
    simp only [printL, List.length_append, List.length_cons] at hf
    have h1 := parse_print t hne.1 (.comma :: (printL (t' :: ts) ++ .rpar :: rest)) g (by omega)
    have h2 := parseL_print (t' :: ts) (by simp) (by simp [nonEmptyL, hne.2]) rest g (by omega)
    simp only [printL, List.append_assoc, List.cons_append, parseL, h1, h2]
end

/-- **C15, Newick round trip** -/
theorem C15_newick_roundtrip (t : Tree) (h : nonEmpty t = true) :
    parse ((print t).length + 1) (print t) = some (t, []) := by
  have := parse_print t h [] ((print t).length + 1) (Nat.le_refl _)
  simpa using this

theorem C15_newick_clades (t t' : Tree) (r : List Tok) (h : nonEmpty t = true)
    (hp : parse ((print t).length + 1) (print t) = some (t', r)) :
    leaves t' = leaves t ∧ clades t' = clades t := by
  rw [C15_newick_roundtrip t h] at hp
  simp only [Option.some.injEq, Prod.mk.injEq] at hp
  rw [← hp.1]; exact ⟨rfl, rfl⟩

/-- not vacuous: `((0,1),2,(3))` -/
example : parse 20 (print (.node [.node [.leaf 0, .leaf 1], .leaf 2, .node [.leaf 3]])) =
    some (.node [.node [.leaf 0, .leaf 1], .leaf 2, .node [.leaf 3]], []) := by rfl

end Verif.Newick
