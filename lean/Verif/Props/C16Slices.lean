import Verif.Model.Partial
/-!
# C16 — the slices of a word select exactly its morphemes

`_get_slices` turns the morphemes of a word into index ranges of its token list; the partial scorer and the
clustering compare `tokens[a:b]` for these ranges.  `C16_slices`: whenever the morphemes are a decomposition of
the tokens (separators, a morpheme, separators, …: `decompOkb`, evaluated on the observed morphemes by the
correspondence), every slice cuts exactly its morpheme out of the tokens and there are as many slices as
morphemes.  For the code as it was before `65599fb` (`slicesOld`) the statement is false: a counterexample is
proved below.
-/
namespace Verif.Partial

theorem skipSeps_eq (isSep : Nat → Bool) (toks : List Nat) : ∀ (fuel cur : Nat),
    ((toks.drop cur).takeWhile isSep).length ≤ fuel →
    skipSeps isSep toks fuel cur = cur + ((toks.drop cur).takeWhile isSep).length := by
  intro fuel
  induction fuel with
  | zero => intro cur h; simp [skipSeps, Nat.le_zero.mp h]
  | succ f ih =>
    intro cur h
    simp only [skipSeps]
    cases ht : toks[cur]? with
    | none => simp [List.drop_eq_nil_of_le (List.getElem?_eq_none_iff.mp ht)]
    | some t =>
      obtain ⟨hlt, rfl⟩ := List.getElem?_eq_some_iff.mp ht
      rw [List.drop_eq_getElem_cons hlt, List.takeWhile_cons] at h ⊢
      cases hs : isSep toks[cur] with
      | false => simp [hs]
      | true =>
        simp only [hs, if_true, List.length_cons] at h ⊢
        rw [ih (cur + 1) (by omega)]; omega

theorem dropWhile_eq_drop {α : Type} (p : α → Bool) (l : List α) :
    l.dropWhile p = l.drop (l.takeWhile p).length := by
  have h := List.drop_left' (l₁ := l.takeWhile p) (l₂ := l.dropWhile p) rfl
  rwa [List.takeWhile_append_dropWhile, eq_comm] at h

theorem slices_drop (isSep : Nat → Bool) (word : List Nat) :
    ∀ (ms : List (List Nat)) (cur : Nat), decompOkb isSep (word.drop cur) ms = true →
      (slices isSep word cur ms).length = ms.length ∧
      ∀ i (hi : i < ms.length), ∀ ab, (slices isSep word cur ms)[i]? = some ab →
        (word.drop ab.1).take (ab.2 - ab.1) = ms[i] := by
  intro ms
  induction ms with
  | nil => intro cur _; simp [slices]
  | cons m ms ih =>
    intro cur h
    have hskip := skipSeps_eq isSep word word.length cur
      (Nat.le_trans (List.takeWhile_prefix isSep).length_le (by simp))
    -- so the morpheme starts where `dropWhile` of the decomposition starts, and the rest where `m` ends
    rw [decompOkb, dropWhile_eq_drop, List.drop_drop, List.drop_drop, ← hskip] at h
    simp only [Bool.and_eq_true, beq_iff_eq] at h
    obtain ⟨⟨_, htake⟩, hrest⟩ := h
    have ih' := ih _ hrest
    rw [slices]
    refine ⟨by rw [List.length_cons, ih'.1, List.length_cons], ?_⟩
    rintro (_ | j) hi ab hab
    · cases hab
      rw [Nat.add_sub_cancel_left]; exact htake
    · exact ih'.2 j (by simpa using hi) ab hab

/-- **C16, slices**: with `pre` the tokens consumed so far – the slices index into the whole word `pre ++ toks`, the
decomposition speaks of what is left (`C16_slices_total` is `pre = []`). -/
theorem C16_slices (isSep : Nat → Bool) :
    ∀ (ms : List (List Nat)) (pre toks : List Nat), decompOkb isSep toks ms = true →
      (slices isSep (pre ++ toks) pre.length ms).length = ms.length ∧
      ∀ i (hi : i < ms.length), ∀ ab, (slices isSep (pre ++ toks) pre.length ms)[i]? = some ab →
        ((pre ++ toks).drop ab.1).take (ab.2 - ab.1) = ms[i] :=
  fun ms pre toks h => slices_drop isSep (pre ++ toks) ms pre.length (by rwa [List.drop_left])

theorem decomp_splitSepsF (isSep : Nat → Bool) :
    ∀ (fuel : Nat) (toks : List Nat), toks.length < fuel → decompOkb isSep toks (splitSepsF isSep fuel toks) = true := by
  intro fuel
  induction fuel with
  | zero => intro toks h; omega
  | succ f ih =>
    intro toks hlen
    simp only [splitSepsF]
    have hdl := (List.dropWhile_suffix (l := toks) isSep).length_le
    have hhead := List.head?_dropWhile_not isSep toks
    have hsplit := List.takeWhile_append_dropWhile (p := isSep) (l := toks)
    generalize hr : toks.dropWhile isSep = rest at hdl hhead hsplit ⊢
    cases rest with
    | nil =>
      simp only [List.isEmpty_nil, if_true, decompOkb]
      rw [← hsplit, List.append_nil]
      exact List.all_takeWhile
    | cons x xs =>
      have hx : isSep x = false := hhead
      simp only [List.isEmpty_cons, Bool.false_eq_true, if_false, decompOkb, hr, Bool.and_eq_true, beq_iff_eq]
      refine ⟨⟨⟨by simp [hx], List.all_takeWhile⟩,
        (List.prefix_iff_eq_take.mp (List.takeWhile_prefix _)).symm⟩, ?_⟩
      apply ih
      have : 1 ≤ ((x :: xs).takeWhile fun t => !isSep t).length := by simp [hx]
      simp only [List.length_drop, List.length_cons] at hdl ⊢
      omega

theorem decomp_splitSeps (isSep : Nat → Bool) (toks : List Nat) :
    decompOkb isSep toks (splitSeps isSep toks) = true :=
  decomp_splitSepsF isSep _ toks (by omega)

theorem decomp_pieces (isSep : Nat → Bool) :
    ∀ (ms : List (List Nat)), (∀ m ∈ ms, m ≠ [] ∧ ∀ t ∈ m, isSep t = false) →
      decompOkb isSep ms.flatten ms = true := by
  intro ms
  induction ms with
  | nil => intro _; simp [decompOkb]
  | cons m ms ih =>
    intro h
    obtain ⟨hne, hm⟩ := h m List.mem_cons_self
    obtain ⟨x, xs, rfl⟩ := List.exists_cons_of_ne_nil hne
    have hall : (x :: xs).all (fun t => !isSep t) = true := List.all_eq_true.mpr fun t ht => by simp [hm t ht]
    -- the head is no separator, so `dropWhile isSep` leaves the tokens alone
    have hdw : ((x :: xs) ++ ms.flatten).dropWhile isSep = (x :: xs) ++ ms.flatten := by
      simp [hm x List.mem_cons_self]
    have ih' := ih fun m' hm' => h m' (List.mem_cons_of_mem _ hm')
    rw [List.flatten_cons, decompOkb, hdw]
    simpa [ih'] using hall

theorem splitTonesF_pieces (isTone : Nat → Bool) :
    ∀ (fuel : Nat) (toks : List Nat), toks.length < fuel →
      (splitTonesF isTone fuel toks).flatten = toks ∧ ∀ m ∈ splitTonesF isTone fuel toks, m ≠ [] := by
  intro fuel
  induction fuel with
  | zero => intro toks h; omega
  | succ f ih =>
    intro toks hlen
    simp only [splitTonesF]
    cases toks with
    | nil => simp
    | cons x xs =>
      simp only [List.isEmpty_cons, Bool.false_eq_true, if_false]
      generalize hk : ((x :: xs).takeWhile fun t => !isTone t).length + 1 = k
      split
      · simp
      · obtain ⟨h1, h2⟩ := ih ((x :: xs).drop k) (by
          simp only [List.length_drop, List.length_cons] at hlen ⊢
          omega)
        refine ⟨by rw [List.flatten_cons, h1, List.take_append_drop], fun m' hm' => ?_⟩
        rcases List.mem_cons.mp hm' with rfl | hm'
        · rw [← hk]; simp
        · exact h2 m' hm'

theorem decomp_morphemesOf (isSep isTone : Nat → Bool) (sot : Bool) (toks : List Nat) :
    decompOkb isSep toks (morphemesOf isSep isTone sot toks) = true := by
  unfold morphemesOf
  split
  · exact decomp_splitSeps isSep toks
  · rename_i hns
    have hnosep : ∀ t ∈ toks, isSep t = false :=
      fun t ht => Bool.eq_false_iff.mpr fun hc => hns (List.any_eq_true.mpr ⟨t, ht, hc⟩)
    split
    · obtain ⟨h1, h2⟩ := splitTonesF_pieces isTone (toks.length + 1) toks (by omega)
      have := decomp_pieces isSep (splitTones isTone toks) fun m hm =>
        ⟨h2 m hm, fun t ht => hnosep t (h1 ▸ List.mem_flatten.mpr ⟨m, hm, ht⟩)⟩
      unfold splitTones at this ⊢
      rwa [h1] at this
    · split
      · rename_i he
        have : toks = [] := by simpa using he
        subst this
        simp [decompOkb]
      · rename_i he
        have hne : toks ≠ [] := by simpa using he
        simpa using decomp_pieces isSep [toks] fun m hm => List.mem_singleton.mp hm ▸ ⟨hne, hnosep⟩

/-- **C16, slices, unconditional**: the slices of the model's morphemes cut exactly these morphemes out of the tokens -/
theorem C16_slices_total (isSep isTone : Nat → Bool) (sot : Bool) (toks : List Nat) :
    (slices isSep toks 0 (morphemesOf isSep isTone sot toks)).length = (morphemesOf isSep isTone sot toks).length ∧
    ∀ i (hi : i < (morphemesOf isSep isTone sot toks).length), ∀ ab,
      (slices isSep toks 0 (morphemesOf isSep isTone sot toks))[i]? = some ab →
        (toks.drop ab.1).take (ab.2 - ab.1) = (morphemesOf isSep isTone sot toks)[i] :=
  C16_slices isSep (morphemesOf isSep isTone sot toks) [] toks (decomp_morphemesOf isSep isTone sot toks)

/-- the code as it was: the tokens `[2, 3, 4, 0, 3, 0, 5]` stand for the word `b i w + i + t` (0 = the separator `+`) –
the second slice is the separator -/
example : slicesOld [2, 3, 4, 0, 3, 0, 5] 0 [[2, 3, 4], [3], [5]] = [(0, 3), (3, 4), (4, 5)] ∧
    ([2, 3, 4, 0, 3, 0, 5].drop 3).take 1 = [0] ∧
    decompOkb (· == 0) [2, 3, 4, 0, 3, 0, 5] [[2, 3, 4], [3], [5]] = true ∧
    slices (· == 0) [2, 3, 4, 0, 3, 0, 5] 0 [[2, 3, 4], [3], [5]] = [(0, 3), (4, 5), (6, 7)] := by decide

end Verif.Partial
