import Verif.Model.Refine
import Verif.Lemmas.ScoreLaws
/-!
# C11 — a whole refinement pass, a whole session of calls, with the score the code compares

`Model/Refine.lean` models `sum_of_pairs` / `score_profile` (both variants) and one `_iter(check='final')` pass.
The theorems below hold for *every* score function of the matrix, hence for `sumOfPairs` with every scorer, gap
weight and carrier; the instances at the end say it for that function.
-/
namespace Verif.Refine
open Verif.Align Verif.MSA

section generic
variable {S : Type} [ScoreOps S]

theorem iterPass_eq (sp : List (List Nat) → S) (steps : List Step) (m : List (List Nat)) :
    iterPass sp steps m =
      if steps.length = 1 ∨ ScoreOps.lt (sp (candidate steps m)) (sp m) = true then m else candidate steps m := by
  by_cases h1 : steps.length = 1 <;> simp [iterPass, iterFinal, h1]

theorem iterPass_ind {P : List (List Nat) → Prop} (sp : List (List Nat) → S) (steps : List Step) (m : List (List Nat))
    (hm : P m) (hc : P (candidate steps m)) : P (iterPass sp steps m) := by
  rw [iterPass_eq]; split <;> assumption

/-- **C11, one pass, no law on the numbers**: after `_iter(check='final')` either the matrix is the saved one, cell
by cell, or the compared score is not lower than before. -/
theorem C11_pass (sp : List (List Nat) → S) (steps : List Step) (m : List (List Nat)) :
    iterPass sp steps m = m ∨ ScoreOps.lt (sp (iterPass sp steps m)) (sp m) = false := by
  rw [iterPass_eq]
  split
  · exact Or.inl rfl
  · next h => exact Or.inr (by simpa using (not_or.mp h).2)

/-- **C11, restore**: when the candidate scores lower the previous alignment comes back unchanged. -/
theorem C11_pass_restore (sp : List (List Nat) → S) (steps : List Step) (m : List (List Nat))
    (h : ScoreOps.lt (sp (candidate steps m)) (sp m) = true) : iterPass sp steps m = m := by
  simp [iterPass_eq, h]

/-- **C11, keep**: otherwise (more than one index set) the candidate of the loop is the result. -/
theorem C11_pass_keep (sp : List (List Nat) → S) (steps : List Step) (m : List (List Nat))
    (hn : steps.length ≠ 1) (h : ScoreOps.lt (sp (candidate steps m)) (sp m) = false) :
    iterPass sp steps m = candidate steps m := by
  simp [iterPass_eq, hn, h]

/-- a pass with a single index set changes nothing (`if len(idx_list) == 1: return`) -/
theorem C11_pass_single (sp : List (List Nat) → S) (f : Step) (m : List (List Nat)) : iterPass sp [f] m = m := by
  simp [iterPass_eq]

end generic

section ordered
variable {S : Type} [ScoreOps S] [LinearOrder S] [ScoreLaws S]
open ScoreLaws

theorem le_of_lt_false {a b : S} (h : ScoreOps.lt a b = false) : b ≤ a :=
  not_lt.mp fun hlt => Bool.false_ne_true (h ▸ (lt_iff a b).mpr hlt)

/-- **C11, one pass** on an ordered carrier: the score measured with the call's own function does not go down. -/
theorem C11_pass_le (sp : List (List Nat) → S) (steps : List Step) (m : List (List Nat)) :
    sp m ≤ sp (iterPass sp steps m) := by
  rcases C11_pass sp steps m with h | h
  · rw [h]
  · exact le_of_lt_false h

/-- **C11, one call** (a call that returns before `_iter` leaves the matrix alone) -/
theorem C11_call_le (c : Call S) (m : List (List Nat)) : c.sp m ≤ c.sp (runCall c m) := by
  unfold runCall
  cases c.steps with
  | none => exact le_refl _
  | some st => exact C11_pass_le c.sp st m

/-- every call of a session, measured with *its own* score function (its gap weight), does not lower the score of
the matrix it found -/
def SessionOk : List (Call S) → List (List Nat) → Prop
  | [], _ => True
  | c :: cs, m => c.sp m ≤ c.sp (runCall c m) ∧ SessionOk cs (runCall c m)

/-- **C11, any sequence of refinement calls and their parameters**: each call is monotone for its own score. -/
theorem C11_session_each (calls : List (Call S)) (m : List (List Nat)) : SessionOk calls m := by
  induction calls generalizing m with
  | nil => trivial
  | cons c cs ih => exact ⟨C11_call_le c m, ih _⟩

/-- **C11, a session with one score function** (same gap weight, same scorer): the score at the end is not lower
than at the beginning, whatever the calls did in between. -/
theorem C11_session_le (sp : List (List Nat) → S) (calls : List (Call S)) (hsp : ∀ c ∈ calls, c.sp = sp)
    (m : List (List Nat)) : sp m ≤ sp (session calls m) := by
  induction calls generalizing m with
  | nil => exact le_refl _
  | cons c cs ih =>
    obtain ⟨rfl, hcs⟩ := List.forall_mem_cons.mp hsp
    exact le_trans (C11_call_le c m) (ih hcs _)

/-! ### `check='immediate'` (outside the property: it scores the start with the call's gap weight and every step with the default one) -/

theorem immFold_inv (sp0 : List (List Nat) → S) (m : List (List Nat)) : ∀ (steps : List Step) (st : List (List Nat) × S),
    sp0 m ≤ st.2 → (st.1 = m ∨ sp0 st.1 = st.2) →
    sp0 m ≤ (steps.foldl (immStep sp0 m) st).2 ∧
      ((steps.foldl (immStep sp0 m) st).1 = m ∨ sp0 (steps.foldl (immStep sp0 m) st).1 = (steps.foldl (immStep sp0 m) st).2)
  | [], st, h1, h2 => ⟨h1, h2⟩
  | f :: fs, st, h1, h2 => by
    rw [List.foldl_cons, immStep]
    split
    · exact immFold_inv sp0 m fs _ h1 (Or.inl rfl)
    · -- the new matrix stands with its own score, which is not below the one to beat
      next h => exact immFold_inv sp0 m fs _ (le_trans h1 (le_of_lt_false (Bool.eq_false_iff.mpr h))) (Or.inr rfl)

/-- when the call's gap weight IS the default one (one score function), the immediate check is monotone as well -/
theorem C11_immediate_le (sp : List (List Nat) → S) (steps : List Step) (m : List (List Nat)) :
    sp m ≤ sp (iterImmediate sp sp steps m) := by
  unfold iterImmediate
  split
  · exact le_refl _
  · obtain ⟨h1, h2⟩ := immFold_inv sp m steps (m, sp m) (le_refl _) (Or.inl rfl)
    rcases h2 with h2 | h2
    · rw [h2]
    · rw [h2]; exact h1

/-- the statement for the function the code compares: `sum_of_pairs` with the scorer, gap cost and gap weight of the call -/
theorem C11_iter_sumOfPairs (k : Kind) (sc : Nat → Nat → S) (gop gw : S) (steps : List Step) (m : List (List Nat)) :
    sumOfPairs k sc gop gw m ≤ sumOfPairs k sc gop gw (iterPass (sumOfPairs k sc gop gw) steps m) :=
  C11_pass_le _ steps m

end ordered

/-- scorer 10 for equal symbols, on `Int`: the columns score 50/9 = 5 and 40/9 = 4 (score over counter, integer division),
their mean is 9/2 = 4 -/
example : sumOfPairs (S := Int) .c (fun a b => if a == b then 10 else 0) (-1) 1 [[1, 2], [1, 0], [3, 2]] = 4 := by decide

/-- a pass that worsens the score is rolled back, one that improves it is kept -/
example : iterPass (S := Int) (sumOfPairs .c (fun a b => if a == b then 10 else 0) (-1) 1)
    [fun _ => [[1, 0], [0, 2]], fun x => x] [[1], [1]] = [[1], [1]] := by decide
example : iterPass (S := Int) (sumOfPairs .c (fun a b => if a == b then 10 else 0) (-1) 1)
    [fun _ => [[1], [1]], fun x => x] [[1, 0], [0, 1]] = [[1], [1]] := by decide

/-- why `check='immediate'` is outside the property: with two score functions a pass can end lower than it began, measured
with the call's own score -/
example : let sp : List (List Nat) → Int := fun m => if m = [[1]] then 5 else 0      -- the call's score
          let sp0 : List (List Nat) → Int := fun m => if m = [[1]] then 5 else 9     -- the default-weight score
          sp (iterImmediate sp sp0 [fun _ => [[2]], fun x => x] [[1]]) < sp [[1]] := by decide

/-- `talign`'s variant differs exactly on a symbol facing a gap -/
example : scoreProfile (S := Int) .t (fun _ _ => 4) (-2) 0 [1, 0] [1, 0] = 0 ∧
          scoreProfile (S := Int) .c (fun _ _ => 4) (-2) 0 [1, 0] [1, 0] = 4 := by decide

end Verif.Refine
