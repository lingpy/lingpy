import Verif.Props.C13Dst
import Verif.Props.C13Num
/-!
# C13 — the `<dst>` block as a whole: lines written with four-decimal values, read back, rebuilt
(composition of `C13_dst_line`, `C13_fixed4_roundtrip` and `C13_dst_rebuild`)
-/
namespace Verif.Dst
open Verif.Num

abbrev Cell := Bool × Nat      -- sign, magnitude · 10⁴

def cellText (c : Cell) : List Nat := renderFixed4 c.1 c.2
def cellRead (v : List Nat) : Cell := (parseFixed4 v).getD (false, 0)

/-- the data lines `matrix2dst` writes -/
def writeBlock (names : List (List Nat)) (M : List (List Cell)) : List (List Nat) :=
  (names.zip M).map fun p => writeLine p.1 (p.2.map cellText)

/-- `read_dst` on every line, then the rebuild of `read_qlc` -/
def readBlock (lines : List (List Nat)) : List (List Cell) :=
  rebuild (false, 0) (lines.map fun l => (readLine l).2.map cellRead)

theorem cellText_tok (c : Cell) : Tok (cellText c) :=
  ⟨by simp [cellText, renderFixed4], fun h => by have := renderFixed4_chars c.1 c.2 32 h; omega⟩

theorem cellRead_cellText (c : Cell) : cellRead (cellText c) = c := by
  simp [cellRead, cellText, C13_fixed4_roundtrip]

theorem read_write_line (name : List Nat) (row : List Cell) :
    (readLine (writeLine name (row.map cellText))).2.map cellRead = row := by
  rw [(C13_dst_line name (row.map cellText) (List.forall_mem_map.mpr fun c _ => cellText_tok c)).1, List.map_map]
  simp [Function.comp_def, cellRead_cellText]

theorem read_write_rows : ∀ (names : List (List Nat)) (M : List (List Cell)), names.length = M.length →
    ((writeBlock names M).map fun l => (readLine l).2.map cellRead) = M := by
  intro names M hlen
  simp only [writeBlock, List.map_map, Function.comp_def, read_write_line]
  exact List.map_snd_zip (by omega)

/-- **C13, the `<dst>` block**: a square, symmetric, zero-diagonal matrix of four-decimal values, written line by line under
any names, is read back as it was -/
theorem C13_dst_block (names : List (List Nat)) (M : List (List Cell)) (hlen : names.length = M.length)
    (hsq : ∀ r ∈ M, r.length = M.length)
    (hsym : ∀ i j, i < M.length → j < M.length → cellOf (false, 0) M i j = cellOf (false, 0) M j i)
    (hdiag : ∀ i, i < M.length → cellOf (false, 0) M i i = (false, 0)) :
    readBlock (writeBlock names M) = M := by
  unfold readBlock
  rw [read_write_rows names M hlen]
  exact C13_dst_rebuild (false, 0) M hsq hsym hdiag

/-- the hypotheses are satisfiable: two languages at distance 0.5 -/
example : readBlock (writeBlock [[65], [66, 67]] [[(false, 0), (false, 5000)], [(false, 5000), (false, 0)]]) =
    [[(false, 0), (false, 5000)], [(false, 5000), (false, 0)]] := by
  refine C13_dst_block _ _ rfl (by decide) (fun i j hi hj => ?_) (by decide)
  revert j
  revert i
  decide

end Verif.Dst
