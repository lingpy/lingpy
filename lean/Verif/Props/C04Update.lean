import Verif.Props.C04Prog
/-!
# C04 — from the internal matrix to the rows of all inputs (`_update_alignments`)

`_update_alignments` writes the row of input `j` by replacing, in the internal row of its representative (`int2ext[i]`
lists the inputs that `i` stands for), the number of position `p` by token `p` of input `j` and the internal gap by `'-'`.

`C04_update`: if every input is listed under exactly one representative, the internal rows have one
common length, the non-gap entries of internal row `i` are the positions `0 … len-1` in order (that is
what `C04_progressive` / `C04_history` say about the internal matrix, whose sequences are the position
numbers) and every input listed under `i` has `len` tokens, none of them the gap symbol, then the
public matrix has one row per input, in input order, all of the common length, row `j` de-gaps to
exactly the tokens of input `j`, and two inputs with the same tokens under the same representative
receive identical rows.  That gaps stand exactly where the internal row has gaps is said for one row
(`extRow_gap_iff`), from which `C04_update_allgap` is drawn.
-/
namespace Verif.MSA

variable {T : Type}

/-- `tmp[k] = v` in a loop, read afterwards -/
theorem lastAssign_eq {α : Type} (assigns : List (Nat × α)) (k : Nat) (d : α) :
    (∀ v, (k, v) ∈ assigns → (∀ a ∈ assigns, a.1 = k → a.2 = v) →
      ((assigns.reverse.find? fun a => a.1 == k).map (·.2)).getD d = v) ∧
    ((∀ a ∈ assigns, a.1 ≠ k) → ((assigns.reverse.find? fun a => a.1 == k).map (·.2)).getD d = d) := by
  cases hf : assigns.reverse.find? (fun a => a.1 == k) with
  | none =>
    refine ⟨fun v hmem _ => ?_, fun _ => rfl⟩
    simpa using List.find?_eq_none.mp hf _ (List.mem_reverse.mpr hmem)
  | some a =>
    have ha1 : a.1 = k := by simpa using List.find?_some hf
    have hain : a ∈ assigns := List.mem_reverse.mp (List.mem_of_find?_eq_some hf)
    exact ⟨fun v _ huniq => huniq a hain ha1, fun hnone => absurd ha1 (hnone a hain)⟩

theorem extRow_length (gap : T) (toks : List T) (row : List (Option Nat)) :
    (extRow gap toks row).length = row.length := by simp [extRow]

theorem extRow_gap_iff (gap : T) (toks : List T) (row : List (Option Nat)) (hg : gap ∉ toks)
    (hrow : row.filterMap id = List.range toks.length) (k : Nat) (hk : k < row.length) :
    (extRow gap toks row).getD k gap = gap ↔ row[k]? = some none := by
  simp only [extRow, List.getD_eq_getElem?_getD, List.getElem?_map, List.getElem?_eq_getElem hk, Option.map_some,
    Option.getD_some, Option.some.injEq]
  cases hrk : row[k] with
  | none => simp
  | some p =>
    have hp : p ∈ row.filterMap id := List.mem_filterMap.mpr ⟨some p, hrk ▸ List.getElem_mem hk, rfl⟩
    rw [hrow, List.mem_range] at hp
    simpa using getD_ne_of_not_mem hg hp

theorem mem_assigns (gap : T) (tokens : List (List T)) (internal : List (List (Option Nat))) (int2ext : List (List Nat))
    (a : Nat × List T) :
    a ∈ ((internal.zip int2ext).flatMap fun p => p.2.map fun j => (j, extRow gap (tokens.getD j []) p.1)) ↔
    ∃ (i : Nat) (h1 : i < internal.length) (h2 : i < int2ext.length), a.1 ∈ int2ext[i] ∧
      a.2 = extRow gap (tokens.getD a.1 []) internal[i] := by
  simp only [List.mem_flatMap, List.mem_map, mem_zip_iff_getElem]
  constructor
  · rintro ⟨_, ⟨i, h1, h2, rfl⟩, j, hj, rfl⟩
    exact ⟨i, h1, h2, hj, rfl⟩
  · rintro ⟨i, h1, h2, hj, ha⟩
    exact ⟨_, ⟨i, h1, h2, rfl⟩, a.1, hj, by rw [← ha]⟩

/-- every input is listed under exactly one representative -/
def Partitioned (n : Nat) (internal : List (List (Option Nat))) (int2ext : List (List Nat)) (cls : Nat → Nat) : Prop :=
  ∀ j, j < n → ∃ (h1 : cls j < internal.length) (h2 : cls j < int2ext.length), j ∈ int2ext[cls j] ∧
    ∀ (i : Nat) (h3 : i < int2ext.length), j ∈ int2ext[i] → i = cls j

theorem update_getElem (gap : T) (tokens : List (List T)) (internal : List (List (Option Nat))) (int2ext : List (List Nat))
    (cls : Nat → Nat) (hpart : Partitioned tokens.length internal int2ext cls) (j : Nat) (hj : j < tokens.length) :
    ∃ (h1 : cls j < internal.length),
      (updateAlignments gap tokens internal int2ext)[j]'(by simp [updateAlignments]; exact hj) =
        extRow gap tokens[j] internal[cls j] := by
  obtain ⟨h1, h2, hmem, huniq⟩ := hpart j hj
  refine ⟨h1, ?_⟩
  simp only [updateAlignments, List.getElem_map, List.getElem_range]
  -- every assignment to `j` comes from its one representative, so all of them write the same row
  refine (lastAssign_eq _ j []).1 _ ((mem_assigns ..).mpr ⟨cls j, h1, h2, hmem, by simp [hj]⟩) fun a ha ha1 => ?_
  obtain ⟨i, hi1, hi2, hji, hrow⟩ := (mem_assigns ..).mp ha
  rw [ha1] at hji hrow
  obtain rfl := huniq i hi2 hji
  rw [hrow, ← List.getElem_eq_getD (h := hj)]

variable [DecidableEq T]

theorem extRow_filter (gap : T) (toks : List T) :
    ∀ (row : List (Option Nat)), (∀ p ∈ row.filterMap id, toks.getD p gap ≠ gap) →
      (extRow gap toks row).filter (· ≠ gap) = (row.filterMap id).map fun p => toks.getD p gap
  | [], _ => by simp [extRow]
  | none :: xs, h => by
    have ih := extRow_filter gap toks xs (fun p hp => h p (by simpa using hp))
    simp only [extRow, List.map_cons, List.filterMap_cons, id] at ih ⊢
    rw [List.filter_cons_of_neg (by simp), ih]
  | some q :: xs, h => by
    have hq : toks.getD q gap ≠ gap := h q (by simp)
    have ih := extRow_filter gap toks xs (fun p hp => h p (by simp [hp]))
    simp only [extRow, List.map_cons, List.filterMap_cons, id] at ih ⊢
    rw [List.filter_cons_of_pos (by simpa using hq), ih]

theorem extRow_degap (gap : T) (toks : List T) (row : List (Option Nat)) (hg : gap ∉ toks)
    (hrow : row.filterMap id = List.range toks.length) :
    (extRow gap toks row).filter (· ≠ gap) = toks := by
  rw [extRow_filter gap toks row, hrow, map_getD_range]
  intro p hp
  rw [hrow, List.mem_range] at hp
  exact getD_ne_of_not_mem hg hp

/-- **C04, `_update_alignments`** -/
theorem C04_update (gap : T) (tokens : List (List T)) (internal : List (List (Option Nat))) (int2ext : List (List Nat))
    (cls : Nat → Nat) (w : Nat) (hpart : Partitioned tokens.length internal int2ext cls)
    (hrect : ∀ r ∈ internal, r.length = w)
    (hrows : ∀ j (hj : j < tokens.length) (h1 : cls j < internal.length),
      internal[cls j].filterMap id = List.range tokens[j].length)
    (hgap : ∀ t ∈ tokens, gap ∉ t) :
    (updateAlignments gap tokens internal int2ext).length = tokens.length ∧
    ∀ j (hj : j < tokens.length),
      let row := (updateAlignments gap tokens internal int2ext)[j]'(by simp [updateAlignments]; exact hj)
      row.length = w ∧ row.filter (· ≠ gap) = tokens[j] ∧
      (∀ j' (hj' : j' < tokens.length), cls j' = cls j → tokens[j'] = tokens[j] →
        (updateAlignments gap tokens internal int2ext)[j']'(by simp [updateAlignments]; exact hj') = row) := by
  refine ⟨by simp [updateAlignments], ?_⟩
  intro j hj
  obtain ⟨h1, hrow⟩ := update_getElem gap tokens internal int2ext cls hpart j hj
  simp only
  rw [hrow]
  refine ⟨?_, ?_, ?_⟩
  · rw [extRow_length]; exact hrect _ (List.getElem_mem h1)
  · exact extRow_degap gap tokens[j] _ (hgap _ (List.getElem_mem hj)) (hrows j hj h1)
  · intro j' hj' hc ht
    obtain ⟨h1', hrow'⟩ := update_getElem gap tokens internal int2ext cls hpart j' hj'
    rw [hrow']
    simp only [hc, ht]

-- the proof needs neither `hj` nor the section's `[DecidableEq T]`
set_option linter.unusedVariables false in
set_option linter.unusedSectionVars false in
/-- **no all-gap column**: a column of the public matrix in which every row has the gap is a column of
the internal matrix in which every representative that stands for some input has the gap -/
theorem C04_update_allgap (gap : T) (tokens : List (List T)) (internal : List (List (Option Nat))) (int2ext : List (List Nat))
    (cls : Nat → Nat) (w : Nat) (hpart : Partitioned tokens.length internal int2ext cls)
    (hrect : ∀ r ∈ internal, r.length = w)
    (hrows : ∀ j (hj : j < tokens.length) (h1 : cls j < internal.length),
      internal[cls j].filterMap id = List.range tokens[j].length)
    (hgap : ∀ t ∈ tokens, gap ∉ t) (k : Nat) (hk : k < w)
    (hall : ∀ j (hj : j < tokens.length),
      ((updateAlignments gap tokens internal int2ext)[j]'(by simp [updateAlignments]; exact hj)).getD k gap = gap) :
    ∀ j (hj : j < tokens.length) (h1 : cls j < internal.length), (internal[cls j])[k]? = some none := by
  intro j hj h1
  obtain ⟨_, hrow⟩ := update_getElem gap tokens internal int2ext cls hpart j hj
  refine (extRow_gap_iff gap tokens[j] internal[cls j] (hgap _ (List.getElem_mem hj)) (hrows j hj h1) k ?_).mp (hrow ▸ hall j hj)
  rw [hrect _ (List.getElem_mem h1)]
  exact hk

theorem partitioned_of_ok (n : Nat) (internal : List (List (Option Nat))) (int2ext : List (List Nat))
    (h : ∀ j, j < n → ((List.range int2ext.length).filter fun i => (int2ext.getD i []).contains j).length = 1 ∧
      clsOf int2ext j < internal.length) :
    Partitioned n internal int2ext (clsOf int2ext) := by
  intro j hj
  obtain ⟨hlen, hc⟩ := h j hj
  obtain ⟨i0, hF⟩ := List.length_eq_one_iff.mp hlen
  -- the one representative that lists `j` is the first that does
  have hcls : clsOf int2ext j = i0 := by
    unfold clsOf
    rw [← List.head?_filter, hF]; rfl
  have hmemF : ∀ i (h3 : i < int2ext.length), j ∈ int2ext[i] ↔ i = i0 := by
    intro i h3
    simpa [h3] using congrArg (i ∈ ·) hF
  have h2 : i0 < int2ext.length := List.mem_range.mp (List.mem_filter.mp (hF ▸ List.mem_singleton_self i0)).1
  rw [hcls] at hc ⊢
  exact ⟨hc, h2, (hmemF i0 h2).mpr rfl, fun i h3 => (hmemF i h3).mp⟩

/-- **C04, `_update_alignments`, on observed data** that the decidable check accepts (the correspondence compares the
model's result with the real `alm_matrix`) -/
theorem C04_update_observed (gap : T) (tokens : List (List T)) (internal : List (List (Option Nat))) (int2ext : List (List Nat))
    (hok : updateOkb gap tokens internal int2ext = true) :
    (updateAlignments gap tokens internal int2ext).length = tokens.length ∧
    ∀ j (hj : j < tokens.length),
      let row := (updateAlignments gap tokens internal int2ext)[j]'(by simp [updateAlignments]; exact hj)
      row.length = (internal.headD []).length ∧ row.filter (· ≠ gap) = tokens[j] ∧
      (∀ j' (hj' : j' < tokens.length), clsOf int2ext j' = clsOf int2ext j → tokens[j'] = tokens[j] →
        (updateAlignments gap tokens internal int2ext)[j']'(by simp [updateAlignments]; exact hj') = row) := by
  simp only [updateOkb, Bool.and_eq_true, List.all_eq_true, List.mem_range, beq_iff_eq, decide_eq_true_eq,
    Bool.not_eq_true'] at hok
  obtain ⟨hper, hrect⟩ := hok
  apply C04_update gap tokens internal int2ext (clsOf int2ext) (internal.headD []).length
  · exact partitioned_of_ok _ _ _ fun j hj => (hper j hj).1.1
  · exact hrect
  · intro j hj h1
    simpa [h1, hj] using (hper j hj).1.2
  · intro t ht
    obtain ⟨j, hj, rfl⟩ := List.mem_iff_getElem.mp ht
    simpa [hj] using (hper j hj).2

/-! not vacuous: `hant`, `hand`, `hant` with the first and the third input under one representative -/
example : updateAlignments '-' [['h', 'a', 'n', 't'], ['h', 'a', 'n', 'd'], ['h', 'a', 'n', 't']]
    [[some 0, some 1, none, some 2, some 3], [some 0, none, some 1, some 2, some 3]] [[0, 2], [1]] =
    [['h', 'a', '-', 'n', 't'], ['h', '-', 'a', 'n', 'd'], ['h', 'a', '-', 'n', 't']] := by decide

end Verif.MSA
