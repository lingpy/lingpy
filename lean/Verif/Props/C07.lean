import Verif.Lemmas.GainLoss
/-!
# C07 — every candidate scenario of the bottom-up pass replays to the pattern

Invariant: every candidate `(s, story)` kept at a node `t` only has events strictly below `t`
and, replayed below `t` from any state compatible with `s`, reproduces every known leaf.
Selection steps (pruning by weight, the gains-per-lineage limit, the final choice) only choose
among candidates, so the returned scenario replays to the pattern – for every tree with distinct
node names, binary or multifurcating, every weight pair, limit and `push_gains`, with missing
leaves unconstrained, for both values of `allMissingFirst`.
-/
namespace Verif.GL

def Good (pat : Nat → Int) (l : List (Nat × Int)) : Prop := ∀ p ∈ l, pat p.1 ≠ -1 → p.2 = pat p.1

-- a candidate in state `s` may be replayed with its node in state `σ`: a determined one only in `s`, `-1` in any
def Compat (s σ : Int) : Prop := (s = 1 → σ = 1) ∧ (s = 0 → σ = 0)

def KeysBelow (story : Story) (t : GTree) : Prop := ∀ p ∈ story, p.1 ∈ descNames t

def Sound (pat : Nat → Int) (c : Cand) (t : GTree) : Prop :=
  KeysBelow c.2 t ∧ ∀ σ, Compat c.1 σ → Good pat (below c.2 σ t)

theorem good_append {pat : Nat → Int} {a b : List (Nat × Int)} (ha : Good pat a) (hb : Good pat b) :
    Good pat (a ++ b) := fun p hp => (List.mem_append.mp hp).elim (ha p) (hb p)

def chStory (ch : Ch) : Story := ch.flatMap (·.2.2)

/-- the events a combination step adds: `v` on every child whose state is selected by `sel` -/
def evOn (ch : Ch) (sel : Int → Bool) (v : Int) : Story :=
  (ch.filter fun p => sel p.2.1).map fun p => (p.1.name, v)

theorem mem_evOn (ch : Ch) (sel : Int → Bool) (v : Int) (k : Nat) (e : Int) :
    (k, e) ∈ evOn ch sel v ↔ e = v ∧ ∃ p ∈ ch, p.1.name = k ∧ sel p.2.1 = true := by
  simp only [evOn, List.mem_map, List.mem_filter, Prod.mk.injEq]
  constructor
  · rintro ⟨p, ⟨hp, hv⟩, rfl, rfl⟩; exact ⟨rfl, p, hp, rfl, hv⟩
  · rintro ⟨rfl, p, hp, rfl, hv⟩; exact ⟨p, ⟨hp, hv⟩, rfl, rfl⟩

theorem zip_events (ch : Ch) (f : Int → Int) (v : Int) :
    evZip (ch.map (·.1.name)) (ch.map fun p => f p.2.1) v = evOn ch (fun s => f s == v) v := by
  rw [evZip, List.zip_map']; simp [evOn, List.filter_map, List.map_map, Function.comp_def]

theorem lookup_facts (ch : Ch) (hnd : (ch.flatMap fun p => nodeNames p.1).Nodup)
    (hK : ∀ p ∈ ch, KeysBelow p.2.2 p.1) (sel : Int → Bool) (v : Int) (hv : v = 1 ∨ v = 0)
    (p : GTree × Cand) (hp : p ∈ ch) :
    (∀ k ∈ descNames p.1, lookupM (chStory ch ++ evOn ch sel v) k = lookupM p.2.2 k) ∧
    lookupM (chStory ch ++ evOn ch sel v) p.1.name = if sel p.2.1 then some v else none := by
  have hndp := (nodup_flatMap hnd).1 p hp
  -- a child that contributes an event on a node of `p`'s subtree shares that name with `p`, so it is `p`
  have hmem : ∀ k ∈ nodeNames p.1, ∀ e, (k, e) ∈ chStory ch ++ evOn ch sel v ↔
      (k, e) ∈ p.2.2 ∨ (k = p.1.name ∧ e = v ∧ sel p.2.1 = true) := by
    intro k hk e
    have huniq : ∀ q ∈ ch, k ∈ nodeNames q.1 → p = q := fun q hq => (nodup_flatMap hnd).2 p hp q hq k hk
    simp only [List.mem_append, chStory, List.mem_flatMap, mem_evOn]
    constructor
    · rintro (⟨q, hq, hm⟩ | ⟨he, q, hq, hqn, hqv⟩)
      · rw [huniq q hq (desc_sub_nodeNames _ _ (hK q hq _ hm))]; exact Or.inl hm
      · rw [huniq q hq (hqn ▸ name_mem_nodeNames q.1)]; exact Or.inr ⟨hqn.symm, he, hqv⟩
    · rintro (hm | ⟨rfl, he, hpv⟩)
      · exact Or.inl ⟨p, hp, hm⟩
      · exact Or.inr ⟨he, p, hp, rfl, hpv⟩
  constructor
  · intro k hk
    refine lookupM_congr _ _ k fun e => ?_
    rw [hmem k (desc_sub_nodeNames _ _ hk) e]
    exact ⟨fun h => h.elim id fun h => absurd (h.1 ▸ hk) (name_not_desc p.1 hndp), Or.inl⟩
  · refine lookupM_of_iff _ _ v hv _ fun e => ?_
    rw [hmem _ (name_mem_nodeNames p.1) e]
    exact ⟨fun h => h.elim (fun h => absurd (hK p hp _ h) (name_not_desc p.1 hndp)) (·.2),
      fun h => Or.inr ⟨rfl, h⟩⟩

/-- One step of the bottom-up pass for any choice of events: all cases of `combine` and `combineR`, and the root
gain, are instances. -/
theorem sound_node (pat : Nat → Int) (n : Nat) (ch : Ch)
    (hnd : (ch.flatMap fun p => nodeNames p.1).Nodup) (hS : ∀ p ∈ ch, Sound pat p.2 p.1)
    (s : Int) (sel : Int → Bool) (v : Int) (hv : v = 1 ∨ v = 0)
    (hc : ∀ p ∈ ch, ∀ σ, Compat s σ → Compat p.2.1 (if sel p.2.1 then v else σ)) :
    Sound pat (s, chStory ch ++ evOn ch sel v) (.node n (ch.map (·.1))) := by
  have hK : ∀ p ∈ ch, KeysBelow p.2.2 p.1 := fun p hp => (hS p hp).1
  constructor
  · intro q hq
    rcases List.mem_append.mp hq with h | h
    · obtain ⟨p, hp, hm⟩ := List.mem_flatMap.mp h
      exact mem_nodeNamesL.mpr ⟨p.1, List.mem_map_of_mem hp, desc_sub_nodeNames _ _ (hK p hp _ hm)⟩
    · obtain ⟨_, p, hp, hpn, _⟩ := (mem_evOn ch sel v q.1 q.2).mp h
      exact mem_nodeNamesL.mpr ⟨p.1, List.mem_map_of_mem hp, hpn ▸ name_mem_nodeNames p.1⟩
  · intro σ hσ q hq
    simp only [below, belowL_eq, List.flatMap_map] at hq
    obtain ⟨p, hp, hq⟩ := List.mem_flatMap.mp hq
    obtain ⟨hbelow, hself⟩ := lookup_facts ch hnd hK sel v hv p hp
    -- below `p` the combined story replays as `p`'s own, and `p` itself starts in a state its candidate allows
    rw [below_congr p.1 _ p.2.2 _ hbelow, hself, apply_ite (Option.getD · σ), Option.getD_some,
      Option.getD_none] at hq
    exact (hS p hp).2 _ (hc p hp σ hσ) q hq

theorem compat_uniform (s x σ : Int) (hx : x = s ∨ x = -1) (hσ : Compat s σ) : Compat x σ := by
  rcases hx with rfl | rfl
  · exact hσ
  · exact ⟨fun h => by omega, fun h => by omega⟩

theorem sound_uniform (pat : Nat → Int) (n : Nat) (ch : Ch)
    (hnd : (ch.flatMap fun p => nodeNames p.1).Nodup) (hS : ∀ p ∈ ch, Sound pat p.2 p.1) (s : Int)
    (huni : ∀ p ∈ ch, p.2.1 = s ∨ p.2.1 = -1) :
    Sound pat (s, chStory ch) (.node n (ch.map (·.1))) := by
  have e : evOn ch (fun _ => false) 0 = [] := by simp [evOn, List.filter_eq_nil_iff]
  have := sound_node pat n ch hnd hS (s := s) (sel := fun _ => false) (v := 0) (hv := Or.inr rfl)
    fun p hp σ hσ => compat_uniform s _ σ (huni p hp) hσ
  rwa [e, List.append_nil] at this

/-- the opposite event `v` under a parent in state `s`; which way an undetermined child goes is free (`combine` leaves
it alone, `combineR` selects it) -/
theorem sound_flip (pat : Nat → Int) (n : Nat) (ch : Ch)
    (hnd : (ch.flatMap fun p => nodeNames p.1).Nodup) (hS : ∀ p ∈ ch, Sound pat p.2 p.1)
    (s v : Int) (hsv : s = 1 ∧ v = 0 ∨ s = 0 ∧ v = 1) (sel : Int → Bool) (hv : sel v = true)
    (hs : sel s = false) :
    Sound pat (s, chStory ch ++ evOn ch sel v) (.node n (ch.map (·.1))) := by
  refine sound_node pat n ch hnd hS (s := s) (sel := sel) (v := v) (hv := by omega) fun p _ σ hσ => ?_
  rcases hsv with ⟨rfl, rfl⟩ | ⟨rfl, rfl⟩
  · constructor
    · intro h; rw [h, hs]; exact hσ.1 rfl
    · intro h; rw [h, hv]; rfl
  · constructor
    · intro h; rw [h, hv]; rfl
    · intro h; rw [h, hs]; exact hσ.2 rfl

theorem sound_relabel (pat : Nat → Int) (t : GTree) (c : Cand) (v : Int) (h : Sound pat c t) (hc : c.1 = -1) :
    Sound pat (v, c.2) t :=
  ⟨h.1, fun σ _ => h.2 σ ⟨fun h1 => by omega, fun h0 => by omega⟩⟩

theorem combine_sound (cfg : Cfg) (pat : Nat → Int) (n : Nat) (ch : Ch)
    (hnd : (ch.flatMap fun p => nodeNames p.1).Nodup) (hS : ∀ p ∈ ch, Sound pat p.2 p.1)
    (c : Cand) (hc : c ∈ combine cfg (ch.map (·.1.name)) (ch.map (·.2))) :
    Sound pat c (.node n (ch.map (·.1))) := by
  have hstories : (ch.map (·.2)).flatMap (·.2) = chStory ch := by simp [chStory, List.flatMap_map]
  have hstates : (ch.map (·.2)).map (·.1) = ch.map fun p => p.2.1 := by simp
  rcases combine_spec cfg (ch.map (·.1.name)) (ch.map (·.2)) with ⟨s, e, _, huni, _⟩ | e
  · rw [e, hstories, List.mem_singleton] at hc; subst hc
    exact sound_uniform pat n ch hnd hS s fun p hp => huni p.2 (List.mem_map_of_mem hp)
  · rw [e, hstories, hstates, zip_events ch (fun s => s) 0, zip_events ch (fun s => s) 1] at hc
    rcases mem_pair.mp hc with rfl | rfl
    · exact sound_flip pat n ch hnd hS (s := 1) (v := 0) (Or.inl ⟨rfl, rfl⟩) (sel := (· == 0)) rfl rfl
    · exact sound_flip pat n ch hnd hS (s := 0) (v := 1) (Or.inr ⟨rfl, rfl⟩) (sel := (· == 1)) rfl rfl

theorem sound_leaf (pat : Nat → Int) (hpat : ∀ n, StateOk (pat n)) (n : Nat) :
    Sound pat (pat n, []) (.leaf n) := by
  refine ⟨(by intro p hp; cases hp), ?_⟩
  intro σ hσ p hp hk
  simp only [below, List.mem_singleton] at hp
  subst hp
  simp only at hk ⊢
  rcases hpat n with h | h | h
  · rw [h]; exact hσ.1 h
  · rw [h]; exact hσ.2 h
  · exact absurd h hk

theorem nodup_ch (n : Nat) (ch : Ch) (hnd : (nodeNames (.node n (ch.map (·.1)))).Nodup) :
    (ch.flatMap fun p => nodeNames p.1).Nodup := by
  have := (List.nodup_cons.mp hnd).2
  rwa [nodeNamesL_eq, List.flatMap_map] at this

theorem cands_sound (cfg : Cfg) (pat : Nat → Int) (hpat : ∀ n, pat n = 1 ∨ pat n = 0 ∨ pat n = -1) :
    ∀ (t : GTree), (nodeNames t).Nodup → ∀ c ∈ cands cfg pat t, Sound pat c t := by
  intro t
  induction t using GTree.induct with
  | leaf n =>
    intro _ c hc
    have e : c = (pat n, []) := by simpa only [cands, List.mem_singleton] using hc
    exact e ▸ sound_leaf pat hpat n
  | node n cs ih =>
    intro hnd c hc
    obtain ⟨combo, hcombo, hcc⟩ := List.mem_flatMap.mp (prune_sub cfg _ c hc)
    rw [candsL_eq] at hcombo
    obtain ⟨ch, rfl, rfl, hmem⟩ := ch_of_mem_product _ cs combo hcombo
    have hndch := nodup_ch n ch hnd
    exact combine_sound cfg pat n ch hndch
      (fun p hp => ih p.1 (List.mem_map_of_mem hp) ((nodup_flatMap hndch).1 p hp) p.2 (hmem p hp)) c
      (by simpa only [List.map_map, Function.comp_def] using hcc)

/-- The root is one more step: seen from a virtual absent parent with the root as its only child, a root
candidate in state 1 receives a gain.  Only the members of the scenario matter, not where the gain is put
(`get_gls` appends it, `_get_GLS` puts it in front). -/
theorem sound_root (pat : Nat → Int) (t : GTree) (hnd : (nodeNames t).Nodup) (c : Cand) (hS : Sound pat c t)
    (story : Story) (h : ∀ x, x ∈ story ↔ x ∈ c.2 ∨ (c.1 = 1 ∧ x = (t.name, 1))) :
    Good pat (replay story t) ∧ ∀ p ∈ story, p.1 ∈ nodeNames t := by
  have hs := sound_flip pat (n := 0) (ch := [(t, c)]) (by simpa using hnd) (by simpa using hS)
    (s := 0) (v := 1) (Or.inr ⟨rfl, rfl⟩) (sel := (· == 1)) rfl rfl
  have e : replay story t = replay (chStory [(t, c)] ++ evOn [(t, c)] (· == 1) 1) t := replay_congr _ _ t (by
    intro x; rw [h]; by_cases h1 : c.1 = 1 <;> simp [chStory, evOn, h1])
  constructor
  · rw [e]
    simpa [below, belowL, replay] using hs.2 0 ⟨fun h => by omega, fun _ => rfl⟩
  · intro p hp
    rcases (h p).mp hp with hp | ⟨_, rfl⟩
    · exact desc_sub_nodeNames _ _ (hS.1 p hp)
    · exact name_mem_nodeNames t

theorem rootCands_good (cfg : Cfg) (pat : Nat → Int) (hpat : ∀ n, StateOk (pat n))
    (t : GTree) (hnd : (nodeNames t).Nodup) (story : Story) (h : story ∈ rootCands cfg pat t) :
    Good pat (replay story t) ∧ ∀ p ∈ story, p.1 ∈ nodeNames t := by
  simp only [rootCands, List.mem_map] at h
  obtain ⟨c, hc, rfl⟩ := h
  refine sound_root pat t hnd c (cands_sound cfg pat hpat t hnd c hc) _ fun x => ?_
  by_cases h1 : c.1 = 1 <;> simp [h1]

/-- **C07 (weighted parsimony)**: whatever scenario the selection returns for a subtree `t` with
distinct node names – the common ancestor of the presences – replaying it from the root of `t`
reproduces every leaf whose state is known (when missing data is recoded as absence the pattern has
no missing entries and they must replay as absent), and every event names a node of `t`. -/
theorem C07_get_gls (cfg : Cfg) (pat : Nat → Int) (hpat : ∀ n, pat n = 1 ∨ pat n = 0 ∨ pat n = -1)
    (t : GTree) (hnd : (nodeNames t).Nodup) (story : Story)
    (h : pickFinal cfg (minWeightStories cfg (rootCands cfg pat t)) = some story) :
    Good pat (replay story t) ∧ ∀ p ∈ story, p.1 ∈ nodeNames t :=
  rootCands_good cfg pat hpat t hnd story
    ((mem_minWeightStories cfg _ story).mp (pickFinal_mem cfg _ story h)).1

/-- the early return: if all leaves below the common ancestor are present, the single gain at
the ancestor replays to the pattern -/
theorem C07_single_gain (pat : Nat → Int) (t : GTree) (hnd : (nodeNames t).Nodup)
    (hall : ∀ l ∈ leafNames t, pat l = 1) : Good pat (replay [(t.name, 1)] t) := by
  unfold replay
  have hl : lookupM [(t.name, (1 : Int))] t.name = some 1 := by simp [lookupM_eq]
  rw [hl]
  simp only [Option.getD_some]
  intro p hp _
  have h1 := below_no_events t [(t.name, (1 : Int))] 1 (by
    intro k hk
    apply lookupM_none
    intro e he
    simp only [List.mem_singleton, Prod.mk.injEq] at he
    exact name_not_desc t hnd (he.1 ▸ hk)) p hp
  have hleaf : p.1 ∈ leafNames t := by
    rw [← below_leaves t [(t.name, (1 : Int))] 1]
    exact List.mem_map.mpr ⟨p, hp, rfl⟩
  rw [h1, hall p.1 hleaf]

end Verif.GL
