import Mathlib.Algebra.Order.Field.Rat
import Mathlib.Data.List.Basic
import Mathlib.Data.Rat.Defs
import Mathlib.Tactic.Linarith
/-!
# C03 — the hypothesis `DiagDom` of the self-distance theorems and its table form

For the shipped models `DiagDom` is discharged on the generated tables of `Verif/Generated/Scorers.lean`, which imports
only this module.
-/
namespace Verif.Align

def DiagDom (s : Nat → Nat → ℚ) : Prop := ∀ x y, s x y ≤ (s x x + s y y) / 2 ∧ 0 ≤ s x x

/-! A table holds the scores times a common positive denominator `D`; row and column `x` belong to the `x`-th
class of the model. -/

def tget (t : List (List Int)) (x y : Nat) : Int := (t.getD x []).getD y 0

def diagDomTable (t : List (List Int)) : Bool :=
  (List.range t.length).all fun x =>
    decide (0 ≤ tget t x x) && (List.range t.length).all fun y => decide (2 * tget t x y ≤ tget t x x + tget t y y) &&
      decide ((t.getD x []).length ≤ t.length)

def scorerOf (t : List (List Int)) (D : Nat) (x y : Nat) : ℚ := (tget t x y : ℚ) / (D : ℚ)

theorem tget_out_row (t : List (List Int)) (x y : Nat) (hx : t.length ≤ x) : tget t x y = 0 := by
  unfold tget
  have : t.getD x [] = [] := by simp [List.getD_eq_getElem?_getD, List.getElem?_eq_none hx]
  rw [this]
  simp

theorem diagDom_of_table (t : List (List Int)) (D : Nat) (hD : 0 < D) (h : diagDomTable t = true) :
    DiagDom (scorerOf t D) := by
  unfold diagDomTable at h
  simp only [List.all_eq_true, List.mem_range, Bool.and_eq_true, decide_eq_true_eq] at h
  have hDq : (0 : ℚ) < (D : ℚ) := by exact_mod_cast hD
  -- the check speaks of the square below `t.length`; outside of it the table reads 0 (rows end there by the check)
  have hout : ∀ x y, t.length ≤ x ∨ t.length ≤ y → tget t x y = 0 := by
    intro x y hxy
    by_cases hx : x < t.length
    · have hlen : (t.getD x []).length ≤ y := by have := ((h x hx).2 0 (by omega)).2; omega
      rw [tget, List.getD_eq_getElem?_getD, List.getElem?_eq_none hlen]; rfl
    · exact tget_out_row t x y (by omega)
  have hdiag : ∀ x, 0 ≤ tget t x x := fun x =>
    if hx : x < t.length then (h x hx).1 else (hout x x (by omega)).ge
  have hpair : ∀ x y, 2 * tget t x y ≤ tget t x x + tget t y y := by
    intro x y
    by_cases hxy : x < t.length ∧ y < t.length
    · exact ((h x hxy.1).2 y hxy.2).1
    · rw [hout x y (by omega)]; have := hdiag x; have := hdiag y; omega
  intro x y
  unfold scorerOf
  constructor
  · have h1 : (2 * tget t x y : ℚ) ≤ (tget t x x : ℚ) + (tget t y y : ℚ) := by exact_mod_cast hpair x y
    rw [← add_div, div_div, div_le_div_iff₀ hDq (mul_pos hDq two_pos)]
    nlinarith
  · have h1 : (0 : ℚ) ≤ (tget t x x : ℚ) := by exact_mod_cast hdiag x
    exact div_nonneg h1 (le_of_lt hDq)

/-! The generated tables hold naturals (scores times the common denominator, shifted by `off`).  `diagDomNat` checks each
row against the list of diagonal entries: no indexing in the double loop, only comparisons of naturals – an order of
magnitude faster in the kernel than `diagDomTable` on the integers. -/

def diagDomNat (off : Nat) (t : List (List Nat)) : Bool :=
  let d := (List.range t.length).map fun x => (t.getD x []).getD x 0
  (t.zip d).all fun (r, dx) =>
    Nat.ble off dx && r.length == d.length && (r.zip d).all fun (v, dy) => Nat.ble (2 * v) (dx + dy)

theorem getElem?_eq_some_getD {α : Type} {l : List α} {i : Nat} (d : α) (h : i < l.length) :
    l[i]? = some (l.getD i d) := by
  simp [List.getD_eq_getElem?_getD, h]

/-- The table on the right is written as in the generated file (`(v : Int)` there coerces the whole row
through the list monad). -/
theorem diagDomTable_shift (off : Nat) (t : List (List Nat)) (h : diagDomNat off t = true) :
    diagDomTable (t.map fun r => r.map fun v => (v : Int) - off) = true := by
  have hmap : (t.map fun r => r.map fun v => (v : Int) - off) =
      t.map (List.map fun (v : Nat) => (v : Int) - off) := by
    simp only [List.pure_def, List.bind_eq_flatMap, ← List.map_eq_flatMap, List.map_map]
    rfl
  rw [hmap]
  simp only [diagDomNat, List.all_eq_true, Bool.and_eq_true, Nat.ble_eq, beq_iff_eq, List.length_map,
    List.length_range] at h
  have hrow : ∀ x, x < t.length → off ≤ (t.getD x []).getD x 0 ∧ (t.getD x []).length = t.length ∧
      ∀ y, y < t.length → 2 * (t.getD x []).getD y 0 ≤ (t.getD x []).getD x 0 + (t.getD y []).getD y 0 := by
    intro x hx
    have hm := h (t.getD x [], (t.getD x []).getD x 0)
      (List.mem_of_getElem? (List.getElem?_zip_eq_some.mpr ⟨getElem?_eq_some_getD [] hx, by simp [hx]⟩))
    refine ⟨hm.1.1, hm.1.2, fun y hy => hm.2 ((t.getD x []).getD y 0, (t.getD y []).getD y 0) ?_⟩
    exact List.mem_of_getElem? (List.getElem?_zip_eq_some.mpr ⟨getElem?_eq_some_getD 0 (hm.1.2 ▸ hy), by simp [hy]⟩)
  have hget : ∀ x y, x < t.length → y < t.length →
      tget (t.map (List.map fun (v : Nat) => (v : Int) - off)) x y = ((t.getD x []).getD y 0 : Int) - off := by
    intro x y hx hy
    have hy' : y < (t.getD x []).length := (hrow x hx).2.1 ▸ hy
    simp only [List.getD_eq_getElem?_getD, List.getElem?_eq_getElem hx, Option.getD_some] at hy' ⊢
    simp [tget, hx, hy']
  simp only [diagDomTable, List.all_eq_true, List.mem_range, Bool.and_eq_true, decide_eq_true_eq,
    List.length_map]
  intro x hx
  obtain ⟨hoff, hlen, hxy⟩ := hrow x hx
  refine ⟨by rw [hget x x hx hx]; omega, fun y hy => ⟨?_, ?_⟩⟩
  · have := hxy y hy
    rw [hget x y hx hy, hget x x hx hx, hget y y hy hy]; omega
  · simpa [List.getD_eq_getElem?_getD, hx] using hlen.le

end Verif.Align
