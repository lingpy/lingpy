import Verif.Model.MSA
import Verif.Props.C14Class2Tokens
import Verif.Lemmas.ListFacts
/-!
# C04 — profile merging and gap-site reduction keep every row's content; C11 — the final check

* merging two blocks along a profile alignment gives rows of one common length that de-gap to
  what they de-gapped to before (so, by induction over any guide tree, to the input sequences);
* removing all-gap columns keeps rectangularity and every row's de-gapped content;
* the end-of-pass comparison never lowers the score it compares, and otherwise restores the
  previous matrix exactly.

The C11 theorems of this file are about `iterFinal`, the bare decision `if sop1 < sop0: restore`; `Props/C11Pass.lean` has
the pass `_iter(check='final')` itself.
-/
namespace Verif.MSA
open Verif.SC

theorem filter_map_filter {α β : Type} (p : β → Bool) (f : α → β) (k : α → Bool) (l : List α)
    (h : ∀ x ∈ l, k x = false → p (f x) = false) : ((l.filter k).map f).filter p = (l.map f).filter p := by
  rw [List.filter_map, List.filter_map, List.filter_filter]
  congr 1
  refine List.filter_congr fun x hx => ?_
  cases hk : k x with
  | true => simp
  | false => simp [h x hx hk]

theorem getElem_of_map_eq {α β γ : Type} {f : β → γ} {k : α → γ} {xs : List α} {ys : List β} (e : ys.map f = xs.map k)
    (i : Nat) (h1 : i < ys.length) (h2 : i < xs.length) : f ys[i] = k xs[i] := by
  simpa [h1, h2] using congrArg (·[i]?) e

theorem getD_ne_of_not_mem {α : Type} {g : α} {l : List α} (hg : g ∉ l) {p : Nat} (hp : p < l.length) : l.getD p g ≠ g := by
  rw [← List.getElem_eq_getD (h := hp)]
  exact fun h => hg (h ▸ List.getElem_mem hp)

theorem insertGaps_spec (g : Nat) (row : List Nat) (flags : List Bool)
    (h : (flags.filter id).length = row.length) :
    (insertGaps g row flags).length = flags.length ∧
    degap g (insertGaps g row flags) = degap g row := by
  obtain ⟨h1, h2, -⟩ := C14_class2tokens row flags h
  refine ⟨by simp [insertGaps, h2], ?_⟩
  unfold insertGaps degap
  -- a gap is filtered out whether it was inserted (`none`) or stood in the row (`some g`)
  have : ∀ (l : List (Option Nat)), (l.map fun o => o.getD g).filter (· != g) = (l.filterMap id).filter (· != g) := by
    intro l
    rw [← List.filterMap_eq_filter, List.filterMap_map, List.filterMap_filterMap]
    congr 1; funext o
    cases o <;> simp [Option.guard]
  rw [this, h1]

/-- **C04, merge**; rows of A come first, then rows of B. -/
theorem C04_merge (g : Nat) (almsA almsB : List (List Nat)) (flagsA flagsB : List Bool)
    (hlen : flagsA.length = flagsB.length)
    (hA : ∀ r ∈ almsA, (flagsA.filter id).length = r.length)
    (hB : ∀ r ∈ almsB, (((flagsA.zip flagsB).map fun p => p.2 || !p.1).filter id).length = r.length) :
    (∀ r ∈ mergeBlocks g almsA almsB flagsA flagsB, r.length = flagsA.length) ∧
    (mergeBlocks g almsA almsB flagsA flagsB).map (degap g) = (almsA ++ almsB).map (degap g) ∧
    (mergeBlocks g almsA almsB flagsA flagsB).length = almsA.length + almsB.length := by
  refine ⟨?_, ?_, by simp [mergeBlocks]⟩
  · simp only [mergeBlocks, List.forall_mem_append, List.forall_mem_map]
    exact ⟨fun x hx => (insertGaps_spec g x flagsA (hA x hx)).1,
      fun x hx => by rw [(insertGaps_spec g x _ (hB x hx)).1]; simp [hlen]⟩
  · simp only [mergeBlocks, List.map_append, List.map_map]
    congr 1
    · exact List.map_congr_left fun x hx => (insertGaps_spec g x flagsA (hA x hx)).2
    · exact List.map_congr_left fun x hx => (insertGaps_spec g x _ (hB x hx)).2

/-- when the two index rows never have a gap in the same column (C01), block B receives a gap
column exactly where its own index row has a gap -/
theorem flagsB_of_no_double_gap (flagsA flagsB : List Bool) (hlen : flagsA.length = flagsB.length)
    (hnd : ∀ p ∈ flagsA.zip flagsB, p.1 = true ∨ p.2 = true) :
    ((flagsA.zip flagsB).map fun p => p.2 || !p.1) = flagsB := by
  have h : ∀ p ∈ flagsA.zip flagsB, (p.2 || !p.1) = p.2 := fun p hp => by cases hnd p hp <;> simp [*]
  rw [List.map_congr_left h, List.map_snd_zip (Nat.le_of_eq hlen.symm)]

/-- **C04, gap-site reduction** -/
theorem C04_reduce (g : Nat) (msa : List (List Nat)) (w : Nat) (hrect : ∀ r ∈ msa, r.length = w) :
    (reduceGapSites g msa).map (degap g) = msa.map (degap g) ∧
    ∃ w', ∀ r ∈ reduceGapSites g msa, r.length = w' := by
  cases msa with
  | nil => exact ⟨rfl, 0, by simp [reduceGapSites]⟩
  | cons first rest =>
    refine ⟨?_, ((List.range first.length).filter (keepCol g (first :: rest))).length, ?_⟩
    · simp only [reduceGapSites, List.map_map]
      refine List.map_congr_left fun line hline => ?_
      -- a dropped column holds the gap in every row, so `degap` drops it from `line` as well
      have hlen : first.length = line.length := (hrect _ List.mem_cons_self).trans (hrect line hline).symm
      have := filter_map_filter (· != g) (fun i => line.getD i g) (keepCol g (first :: rest)) (List.range first.length)
        (fun i _ hk => by
          simp only [keepCol, Bool.not_eq_false', List.all_eq_true, beq_iff_eq] at hk
          simpa using hk line hline)
      rw [hlen, map_getD_range] at this
      simpa [degap, hlen] using this
    · intro r hr
      simp only [reduceGapSites, List.mem_map] at hr
      obtain ⟨line, _, rfl⟩ := hr
      simp

theorem C11_restore {S : Type} (lt : S → S → Bool) (sop0 sop1 : S) (old new : List (List Nat))
    (h : lt sop1 sop0 = true) : iterFinal lt sop0 sop1 old new = old := by
  simp [iterFinal, h]

theorem C11_keep {S : Type} (lt : S → S → Bool) (sop0 sop1 : S) (old new : List (List Nat))
    (h : lt sop1 sop0 = false) : iterFinal lt sop0 sop1 old new = new := by
  simp [iterFinal, h]

/-- **C11**, for any realignment, any score function `sp` of the matrix and any carrier on which
"not lower" is the negation of "lower". -/
theorem C11_monotone {S : Type} (lt : S → S → Bool) (sp : List (List Nat) → S) (old new : List (List Nat)) :
    lt (sp (iterFinal lt (sp old) (sp new) old new)) (sp old) = false ∨
      iterFinal lt (sp old) (sp new) old new = old := by
  cases h : lt (sp new) (sp old) with
  | true => exact Or.inr (C11_restore lt _ _ old new h)
  | false => exact Or.inl (by rw [C11_keep lt _ _ old new h, h])

/-- the direction of the comparison matters: with `>` in place of `<` an improvement is thrown away -/
example : iterFinal (fun a b : Int => decide (a > b)) 1 5 [[0]] [[1]] = [[0]] := by decide

end Verif.MSA
