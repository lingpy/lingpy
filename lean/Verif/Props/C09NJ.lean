import Verif.Props.C09
/-!
# C09 — structure of the Neighbor-Joining join sequence

For every matrix and carrier: every join removes two clusters and adds their union, no taxon is lost
or duplicated, and for `n ≥ 1` taxa the builder performs exactly `n − 1` joins and ends with one
cluster holding every taxon once.
-/
namespace Verif.TreeBuild
open Verif.Align Verif.Cluster ScoreOps
variable {S : Type} [ScoreOps S]

theorem perm_filter_ne (l : List Nat) (x : Nat) (hnd : l.Nodup) (hx : x ∈ l) : l.Perm (x :: l.filter (· != x)) :=
  hnd.erase_eq_filter x ▸ List.perm_cons_erase hx

theorem nj_merge_perm (cs : List (List Nat)) (ia ib : Nat) (hab : ia < ib) (hb : ib < cs.length) :
    let keys := (List.range cs.length).filter (· != ib)
    let newC := keys.map fun key => if key = ia then cs.getD ia [] ++ cs.getD ib [] else cs.getD key []
    newC.flatten.Perm cs.flatten ∧ newC.length + 1 = cs.length := by
  intro keys newC
  have hk1 : (List.range cs.length).Perm (ib :: keys) :=
    perm_filter_ne _ ib List.nodup_range (List.mem_range.mpr hb)
  have hk2 : keys.Perm (ia :: keys.filter (· != ia)) := perm_filter_ne keys ia (List.nodup_range.filter _)
    (List.mem_filter.mpr ⟨List.mem_range.mpr (by omega), by simpa using Nat.ne_of_lt hab⟩)
  refine ⟨?_, by
    have := hk1.length_eq
    simp only [List.length_range, List.length_cons] at this
    simp only [newC, List.length_map]
    omega⟩
  -- both sides are the two joined clusters and then the clusters at the other keys
  have hrest : (keys.filter (· != ia)).map (fun key =>
      if key = ia then cs.getD ia [] ++ cs.getD ib [] else cs.getD key []) =
      (keys.filter (· != ia)).map (cs.getD · []) :=
    List.map_congr_left fun key hkey => if_neg (by simpa using (List.mem_filter.mp hkey).2)
  have h1 := (hk2.map fun key => if key = ia then cs.getD ia [] ++ cs.getD ib [] else cs.getD key []).flatten
  have h2 := ((hk1.trans (hk2.cons ib)).map (cs.getD · [])).flatten
  rw [map_getD_range] at h2
  simp only [List.map_cons, List.flatten_cons, if_true, hrest, List.append_assoc] at h1 h2
  exact h1.trans ((List.perm_append_comm_assoc _ _ _).trans h2.symm)

theorem njStep_none (st : NState S) (h : st.clusters.length ≤ 1) : njStep st = none := by
  simp [njStep, h]

theorem njStep_two (st : NState S) (h2 : st.clusters.length = 2) :
    njStep st = some
      { clusters := [st.clusters.getD 0 [] ++ st.clusters.getD 1 []], matrix := [[zero]],
        tracer := st.tracer ++ [(st.clusters.getD 0 [] ++ st.clusters.getD 1 [], (st.tracer.map (·.2)).foldl max 0 + 1)],
        rows := st.rows ++ [(traceId st.tracer (st.clusters.getD 0 []), traceId st.tracer (st.clusters.getD 1 []),
          div (mget st.matrix 0 1) two, div (mget st.matrix 0 1) two)] } := by
  simp [njStep, h2]

/-- the row averages `averages[i]` of `njStep` -/
def njAv (st : NState S) (i : Nat) : S :=
  (st.matrix.map fun line => div (ScoreOps.sum line) (sub (ofNat st.clusters.length) two)).getD i zero

/-- the selection criterion `new_matrix[i][j]` of `njStep` -/
def njQ (st : NState S) (i j : Nat) : S := sub (sub (mget st.matrix j i) (njAv st j)) (njAv st i)

/-- the scored pairs `i < j` among which `njStep` picks -/
def njPairs (st : NState S) : List ((Nat × Nat) × S) :=
  (List.range st.clusters.length).flatMap fun i =>
    ((List.range st.clusters.length).filter fun j => i < j).map fun j => ((i, j), njQ st i j)

theorem mem_njPairs (st : NState S) (i j : Nat) (m : S) :
    ((i, j), m) ∈ njPairs st ↔ i < j ∧ j < st.clusters.length ∧ njQ st i j = m := by
  simp only [njPairs, List.mem_flatMap, List.mem_map, List.mem_filter, List.mem_range, decide_eq_true_eq,
    Prod.mk.injEq]
  constructor
  · rintro ⟨i', _, j', ⟨hj, hij⟩, ⟨rfl, rfl⟩, rfl⟩
    exact ⟨hij, hj, rfl⟩
  · rintro ⟨hij, hj, rfl⟩
    exact ⟨i, by omega, j, ⟨hj, hij⟩, ⟨rfl, rfl⟩, rfl⟩

theorem njStep_eq (st st' : NState S) (hk : 3 ≤ st.clusters.length) (h : njStep st = some st') :
    ∃ ia ib m, argMin false (njPairs st) = some ((ia, ib), m) ∧
      st' =
        { clusters := ((List.range st.clusters.length).filter (· != ib)).map fun key =>
            if key = ia then st.clusters.getD ia [] ++ st.clusters.getD ib [] else st.clusters.getD key [],
          matrix := squareform (st.clusters.length - 1)
            ((((List.range st.clusters.length).filter (· != ib)).zipIdx).flatMap fun (x : Nat × Nat) =>
              ((((List.range st.clusters.length).filter (· != ib)).zipIdx).filter fun (y : Nat × Nat) => x.2 < y.2).map
                fun (y : Nat × Nat) =>
                  if x.1 != ia && y.1 != ia then mget st.matrix x.1 y.1
                  else if x.1 == ia then
                    div (sub (add (mget st.matrix ia y.1) (mget st.matrix ib y.1)) (mget st.matrix ia ib)) two
                  else div (sub (add (mget st.matrix ia x.1) (mget st.matrix ib x.1)) (mget st.matrix ia ib)) two),
          tracer := st.tracer ++
            [(st.clusters.getD ia [] ++ st.clusters.getD ib [], (st.tracer.map (·.2)).foldl max 0 + 1)],
          rows := st.rows ++ [(traceId st.tracer (st.clusters.getD ia []), traceId st.tracer (st.clusters.getD ib []),
            add (div (mget st.matrix ia ib) two) (div (sub (njAv st ia) (njAv st ib)) two),
            sub (mget st.matrix ia ib)
              (add (div (mget st.matrix ia ib) two) (div (sub (njAv st ia) (njAv st ib)) two)))] } := by
  unfold njStep at h
  simp only at h
  rw [if_neg (by omega), if_neg (by omega)] at h
  split at h
  · cases h
  · rename_i ia ib m heq
    exact ⟨ia, ib, m, heq, (Option.some.inj h).symm⟩

theorem njStep_spec (st st' : NState S) (h : njStep st = some st') :
    st'.clusters.flatten.Perm st.clusters.flatten ∧ st'.clusters.length + 1 = st.clusters.length ∧
    st'.rows.length = st.rows.length + 1 := by
  by_cases h1 : st.clusters.length ≤ 1
  · rw [njStep_none st h1] at h; cases h
  by_cases h2 : st.clusters.length = 2
  · rw [njStep_two st h2] at h
    obtain rfl := Option.some.inj h
    refine ⟨?_, by simp [h2], by simp⟩
    conv => rhs; rw [← map_getD_range [] st.clusters]
    simp [h2, List.range_succ]
  · obtain ⟨ia, ib, m, heq, rfl⟩ := njStep_eq st st' (by omega) h
    obtain ⟨hab, hb, _⟩ := (mem_njPairs st ia ib m).mp (argMin_mem _ _ _ heq)
    obtain ⟨p1, p2⟩ := nj_merge_perm st.clusters ia ib hab hb
    exact ⟨p1, p2, by simp⟩

theorem njStep_some (st : NState S) (h : 2 ≤ st.clusters.length) : ∃ st', njStep st = some st' := by
  by_cases h2 : st.clusters.length = 2
  · exact ⟨_, njStep_two st h2⟩
  · unfold njStep
    simp only
    rw [if_neg (by omega), if_neg h2]
    split
    · rename_i heq
      have hnil : njPairs st = [] := argMin_none _ _ heq
      have := (mem_njPairs st 0 1 _).mpr ⟨by omega, by omega, rfl⟩
      rw [hnil] at this
      cases this
    · exact ⟨_, rfl⟩

theorem njRun_eq_iter : ∀ (n : Nat) (st : NState S), njRun n st = iter njStep n st
  | 0, _ => rfl
  | n+1, st => by
    unfold njRun iter
    cases njStep st with
    | none => rfl
    | some st' => exact njRun_eq_iter n st'

/-- **C09, structure (Neighbor-Joining)** -/
theorem C09_nj_structure (M : List (List S)) (n : Nat) (hn : 1 ≤ n) :
    (neighbor M n).clusters.flatten.Perm (List.range n) ∧ (neighbor M n).clusters.length = 1 ∧
    (neighbor M n).rows.length = n - 1 := by
  unfold neighbor
  rw [njRun_eq_iter]
  have hp := iter_inv (njStep (S := S)) (fun st => st.clusters.flatten.Perm (List.range n))
    (fun st st' h hs => (njStep_spec st st' hs).1.trans h)
    n ⟨(List.range n).map fun i => [i], M, (List.range n).map fun i => ([i], i), []⟩
    (by rw [← List.flatMap_def, List.flatMap_singleton'])
  have hj := iter_joins (njStep (S := S)) (·.clusters.length) (·.rows.length)
    (fun st st' hs => (njStep_spec st st' hs).2) njStep_some njStep_none
    n ⟨(List.range n).map fun i => [i], M, (List.range n).map fun i => ([i], i), []⟩ (by simpa) (by simp)
  simp only [List.length_map, List.length_range, List.length_nil] at hj
  exact ⟨hp, hj.1, by omega⟩

end Verif.TreeBuild
