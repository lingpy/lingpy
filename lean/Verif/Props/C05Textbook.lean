import Verif.Props.C05Order
/-!
# C05 — the clusterer is the textbook agglomerative procedure

A *textbook step* merges two clusters whose linkage is minimal among **all** pairs of current
clusters, provided that minimum is `≤ t`; the procedure stops when no pair is `≤ t` (`C05_stop`).
`C05_textbook`: every step of the model's run is a textbook step – for every linkage, pick rule and
matrix, with or without ties.  On a matrix without ties the minimal pair is unique at every step
(`textbook_step_unique`); with ties the code follows one of the admissible runs.
-/
namespace Verif.Cluster
open Verif.Align ScoreOps ScoreLaws
variable {S : Type} [ScoreOps S] [LinearOrder S] [ScoreLaws S]

def TextbookStep (link : Link) (M : Nat → Nat → S) (t : S) (cs cs' : St) : Prop :=
  ∃ (p q : Nat) (hp : p < cs.length) (hq : q < cs.length), p ≠ q ∧ cs' = mergeAt cs p q ∧
    linkage link M cs[p].2 cs[q].2 ≤ t ∧
    ∀ (p' q' : Nat) (hp' : p' < cs.length) (hq' : q' < cs.length), p' ≠ q' →
      linkage link M cs[p].2 cs[q].2 ≤ linkage link M cs[p'].2 cs[q'].2

theorem next_textbook (cfg : Cfg) (hu : cfg.unordered = false) (M : Nat → Nat → S) (t : S) (cs cs' : St) (m : S)
    (h : next cfg M cs = some (m, cs')) (hm : le m t = true) : TextbookStep cfg.link M t cs cs' := by
  obtain ⟨p, q, hp, hq, hne, hcs, hml, _⟩ := next_spec cfg M cs m cs' h
  refine ⟨p, q, hp, hq, hne, hcs, ?_, ?_⟩
  · rw [← hml, ← le_iff]; exact hm
  · intro p' q' hp' hq' hne'
    exact hml ▸ next_le h _ (pairScores_complete cfg hu M cs p' q' hp' hq' hne')

theorem trace_textbook (cfg : Cfg) (hu : cfg.unordered = false) (M : Nat → Nat → S) (t : S) (n : Nat) (cs : St) :
    List.IsChain (TextbookStep cfg.link M t) (trace cfg M t n cs) := by
  fun_induction trace cfg M t n cs with
  | case3 n cs m cs' hn hm ih =>
    obtain ⟨l, hl⟩ := trace_cons cfg M t n cs'
    rw [hl] at ih ⊢
    exact List.IsChain.cons_cons (next_textbook cfg hu M t cs cs' m hn hm) ih
  | _ => exact List.IsChain.singleton _

/-- **C05, textbook procedure** -/
theorem C05_textbook (cfg : Cfg) (hu : cfg.unordered = false) (M : Nat → Nat → S) (t : S) (n : Nat) :
    List.IsChain (TextbookStep cfg.link M t) (trace cfg M t n (init n)) ∧
    ∀ (p q : Nat) (hp : p < (flatCluster cfg M t n).length) (hq : q < (flatCluster cfg M t n).length), p ≠ q →
      t < linkage cfg.link M (flatCluster cfg M t n)[p].2 (flatCluster cfg M t n)[q].2 :=
  ⟨trace_textbook cfg hu M t n (init n), fun p q hp hq hne => C05_stop cfg hu M t n p q hp hq hne⟩

-- the statement takes the section's `[ScoreLaws S]`, which the proof does not need
set_option linter.unusedSectionVars false in
/-- without ties the minimal pair of a state is unique up to its orientation: any two textbook steps from
one state merge the same two clusters -/
theorem textbook_step_unique (link : Link) (M : Nat → Nat → S) (t : S) (cs c1 c2 : St)
    (hdistinct : ∀ (p q p' q' : Nat) (hp : p < cs.length) (hq : q < cs.length) (hp' : p' < cs.length)
      (hq' : q' < cs.length), p ≠ q → p' ≠ q' →
      linkage link M cs[p].2 cs[q].2 = linkage link M cs[p'].2 cs[q'].2 → (p = p' ∧ q = q') ∨ (p = q' ∧ q = p'))
    (h1 : TextbookStep link M t cs c1) (h2 : TextbookStep link M t cs c2) :
    ∃ p q, (c1 = mergeAt cs p q ∨ c1 = mergeAt cs q p) ∧ (c2 = mergeAt cs p q ∨ c2 = mergeAt cs q p) := by
  obtain ⟨p, q, hp, hq, hne, rfl, _, hmin⟩ := h1
  obtain ⟨p', q', hp', hq', hne', rfl, _, hmin'⟩ := h2
  have heq : linkage link M cs[p].2 cs[q].2 = linkage link M cs[p'].2 cs[q'].2 :=
    le_antisymm (hmin p' q' hp' hq' hne') (hmin' p q hp hq hne)
  rcases hdistinct p q p' q' hp hq hp' hq' hne hne' heq with ⟨rfl, rfl⟩ | ⟨rfl, rfl⟩
  · exact ⟨p, q, Or.inl rfl, Or.inl rfl⟩
  · exact ⟨p, q, Or.inl rfl, Or.inr rfl⟩

end Verif.Cluster
