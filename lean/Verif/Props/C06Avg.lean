import Verif.Props.C06Cor
/-!
# C06 — equivalence matrices with average linkage (UPGMA, the default of the consonant-class method)

When "distance ≤ threshold" is an equivalence on the words of a concept, average linkage returns
exactly its classes as well.  The only facts about the arithmetic that are used are two laws of the
mean at the threshold:

* a mean of values that are all `≤ t` is `≤ t`            (`MeanLe`)
* a mean of values that are all `> t` is `> t`            (`MeanGt`)

They are proved for the `Int` carrier below (floor division).  For IEEE doubles they hold for the
0/1 matrices of the consonant-class method (sums of at most 2^53 ones and zeros are exact, `k/k = 1`,
`0/k = 0`) – that instance is assumed, and exercised by the correspondence on the real code.

Together they give `mid_average`, which is all that the classes theorem `classes_of_mid` asks of a linkage.
-/
namespace Verif.Cluster
open Verif.Align ScoreOps ScoreLaws
variable {S : Type} [ScoreOps S] [LinearOrder S] [ScoreLaws S]

def MeanLe (t : S) : Prop :=
  ∀ vals : List S, vals ≠ [] → (∀ v ∈ vals, v ≤ t) → div (ScoreOps.sum vals) (ofNat vals.length) ≤ t

def MeanGt (t : S) : Prop :=
  ∀ vals : List S, vals ≠ [] → (∀ v ∈ vals, t < v) → t < div (ScoreOps.sum vals) (ofNat vals.length)

omit [ScoreLaws S] in
theorem mid_average (M : Nat → Nat → S) (t : S) (hle : MeanLe t) (hgt : MeanGt t) : Mid .average M t := by
  intro A B hA hB
  have hne := cross_ne_nil M A B hA hB
  constructor
  · intro h
    refine Classical.byContradiction fun hno => not_lt.mpr h (hgt _ hne fun v hv => ?_)
    obtain ⟨a, ha, b, hb, rfl⟩ := (mem_cross M A B v).mp hv
    exact not_le.mp fun hab => hno ⟨a, ha, b, hb, hab⟩
  · intro h
    refine hle _ hne fun v hv => ?_
    obtain ⟨a, ha, b, hb, rfl⟩ := (mem_cross M A B v).mp hv
    exact h a ha b hb

/-- **equivalence matrices, average linkage**: two items share a cluster iff they are related -/
theorem C06_classes_average (cfg : Cfg) (hl : cfg.link = .average) (hu : cfg.unordered = false)
    (M : Nat → Nat → S) (t : S) (n : Nat)
    (hrefl : ∀ x, M x x ≤ t)
    (hsymm : ∀ x y, M x y ≤ t → M y x ≤ t) (htrans : ∀ x y z, M x y ≤ t → M y z ≤ t → M x z ≤ t)
    (hle : MeanLe t) (hgt : MeanGt t) :
    (∀ c ∈ flatCluster cfg M t n, ∀ x ∈ c.2, ∀ y ∈ c.2, M x y ≤ t) ∧
    (∀ p q (hp : p < (flatCluster cfg M t n).length) (hq : q < (flatCluster cfg M t n).length), p ≠ q →
      ∀ x ∈ (flatCluster cfg M t n)[p].2, ∀ y ∈ (flatCluster cfg M t n)[q].2, ¬ M x y ≤ t) :=
  (classes_of_mid cfg hu M t n (hl ▸ mid_average M t hle hgt) hsymm htrans).imp_left
    fun h c hc x hx y hy => (eq_or_ne x y).elim (· ▸ hrefl x) (h c hc x hx y hy)

/-! On `Int` the floor of the mean lies between the least and the greatest value. -/

theorem mean_int (vals : List Int) : div (ScoreOps.sum vals) (ofNat vals.length) = vals.sum / vals.length :=
  congrArg (· / (vals.length : Int)) List.sum_eq_foldl.symm

theorem meanLe_int (t : Int) : MeanLe t := fun vals hne hall =>
  mean_int vals ▸ Int.le_trans (List.sum_div_length_le_max_int hne) (hall _ (List.max_mem hne))

theorem meanGt_int (t : Int) : MeanGt t := fun vals hne hall =>
  mean_int vals ▸ Int.lt_of_lt_of_le (hall _ (List.min_mem hne)) (List.min_le_sum_div_length_int hne)

/-- the theorem is not vacuous: the 0/1 matrix of "same key" on keys `[7, 7, 9, 7]`, threshold 0 -/
example : (flatCluster (S := Int) { link := .average, lastMin := false, unordered := false }
    (fun i j => if [7, 7, 9, 7][i]? = [7, 7, 9, 7][j]? then 0 else 1) 0 4).map (·.2) = [[0, 1, 3], [2]] := by
  decide

end Verif.Cluster
