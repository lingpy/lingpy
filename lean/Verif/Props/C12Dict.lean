import Verif.Props.C12
import Verif.Model.WordlistViews
/-!
# C12 — the dictionary views (`get_dict`) describe the same rows as every other view
-/
namespace Verif.WL

/-- row ids are keys of the data dictionary: two rows with one id are one row -/
def UniqueIds (rows : List Row) : Prop := ∀ r ∈ rows, ∀ r' ∈ rows, r.id = r'.id → r = r'

theorem conceptOfId_of_mem (rows : List Row) (hu : UniqueIds rows) (r : Row) (hr : r ∈ rows) :
    conceptOfId rows r.id = r.concept := by
  unfold conceptOfId
  cases hf : rows.find? (fun x => x.id == r.id) with
  | none =>
    have := List.find?_eq_none.mp hf r hr
    simp at this
  | some r' =>
    have h1 := List.find?_some hf
    have h2 := List.mem_of_find?_eq_some hf
    have : r' = r := hu r' h2 r hr (by simpa using h1)
    simp [this]

/-- **C12, `get_dict(row=c)`**: a key `l` has a row of concept `c`, and lists exactly the ids of the rows of concept `c` and
language `l` -/
theorem C12_dictOfRow (rows : List Row) (c l : Nat) (ids : List Nat) (h : (l, ids) ∈ dictOfRow rows c) (v : Nat) :
    (∃ r ∈ rows, r.concept = c ∧ r.lang = l) ∧
    (v ∈ ids ↔ ∃ r ∈ rows, r.id = v ∧ r.concept = c ∧ r.lang = l) := by
  obtain ⟨hl, rfl⟩ := (mem_keyed _ _ l ids).mp h
  simp only [List.mem_map, List.mem_filter, beq_iff_eq] at hl
  obtain ⟨r, ⟨hr, hc⟩, rfl⟩ := hl
  exact ⟨⟨r, hr, hc, rfl⟩, mem_idsOf rows c r.lang v⟩

theorem C12_dictOfRow_keys (rows : List Row) (c : Nat) (r : Row) (hr : r ∈ rows) (hc : r.concept = c) :
    ∃ ids, (r.lang, ids) ∈ dictOfRow rows c := by
  refine ⟨_, (mem_keyed _ _ r.lang _).mpr ⟨?_, rfl⟩⟩
  simp only [List.mem_map, List.mem_filter, beq_iff_eq]
  exact ⟨r, ⟨hr, hc⟩, rfl⟩

theorem mem_listOfCol_concept (rows : List Row) (cols : List Nat) (hu : UniqueIds rows) (l j : Nat)
    (hj : cols.idxOf? l = some j) (c v : Nat) :
    v ∈ listOfCol rows cols l ∧ conceptOfId rows v = c ↔ v ≠ 0 ∧ ∃ r ∈ rows, r.id = v ∧ r.lang = l ∧ r.concept = c := by
  rw [C12_listOfCol rows cols l j v hj]
  constructor
  · rintro ⟨⟨hv, r, hr, rfl, hl⟩, hc⟩
    exact ⟨hv, r, hr, rfl, hl, conceptOfId_of_mem rows hu r hr ▸ hc⟩
  · rintro ⟨hv, r, hr, rfl, hl, hc⟩
    exact ⟨⟨hv, r, hr, rfl, hl⟩, conceptOfId_of_mem rows hu r hr ▸ hc⟩

/-- **C12, `get_dict(col=l)`**: under concept `c` stand exactly the non-zero ids of the rows of language `l` and concept `c`
(row ids being unique) -/
theorem C12_dictOfCol (rows : List Row) (cols : List Nat) (hu : UniqueIds rows) (l j : Nat) (hj : cols.idxOf? l = some j)
    (c : Nat) (ids : List Nat) (h : (c, ids) ∈ dictOfCol rows cols l) (v : Nat) :
    v ∈ ids ↔ v ≠ 0 ∧ ∃ r ∈ rows, r.id = v ∧ r.lang = l ∧ r.concept = c := by
  obtain ⟨_, rfl⟩ := (mem_keyed _ _ c ids).mp h
  simp only [List.mem_filter, beq_iff_eq]
  exact mem_listOfCol_concept rows cols hu l j hj c v

theorem C12_dictOfCol_keys (rows : List Row) (cols : List Nat) (hu : UniqueIds rows) (r : Row) (hr : r ∈ rows) (h0 : r.id ≠ 0)
    (j : Nat) (hj : cols.idxOf? r.lang = some j) : ∃ ids, (r.concept, ids) ∈ dictOfCol rows cols r.lang ∧ r.id ∈ ids := by
  obtain ⟨hmem, hc⟩ := (mem_listOfCol_concept rows cols hu r.lang j hj r.concept r.id).mpr ⟨h0, r, hr, rfl, rfl, rfl⟩
  exact ⟨_, (mem_keyed _ _ r.concept _).mpr ⟨List.mem_map.mpr ⟨r.id, hmem, hc⟩, rfl⟩,
    List.mem_filter.mpr ⟨hmem, by simpa using hc⟩⟩

/-- **the two dictionaries agree** on every non-zero id -/
theorem C12_dicts_agree (rows : List Row) (cols : List Nat) (hu : UniqueIds rows) (l j : Nat) (hj : cols.idxOf? l = some j)
    (c : Nat) (idsC idsR : List Nat) (hC : (c, idsC) ∈ dictOfCol rows cols l) (hR : (l, idsR) ∈ dictOfRow rows c)
    (v : Nat) (hv : v ≠ 0) : v ∈ idsC ↔ v ∈ idsR := by
  rw [C12_dictOfCol rows cols hu l j hj c idsC hC v, (C12_dictOfRow rows c l idsR hR v).2]
  constructor
  · rintro ⟨_, r, hr, h1, h2, h3⟩; exact ⟨r, hr, h1, h3, h2⟩
  · rintro ⟨r, hr, h1, h2, h3⟩; exact ⟨hv, r, hr, h1, h3, h2⟩

/-- with an entry the cells are those of the listed rows, in the same order -/
theorem C12_withEntry {α : Type} (cell : Nat → α) (d : List (Nat × List Nat)) (k : Nat) (ids : List Nat) (h : (k, ids) ∈ d) :
    (k, ids.map cell) ∈ withEntry cell d := by
  simp only [withEntry, List.mem_map, Prod.mk.injEq]
  exact ⟨(k, ids), h, rfl, rfl⟩

/-- **which concepts a language's dictionary has**: exactly those for which it has a row (what `get_score` tests with
`concept not in dictA`) -/
theorem C12_dictOfCol_key_iff (rows : List Row) (cols : List Nat) (hu : UniqueIds rows) (l j : Nat) (hj : cols.idxOf? l = some j)
    (c : Nat) : (∃ ids, (c, ids) ∈ dictOfCol rows cols l) ↔ ∃ r ∈ rows, r.id ≠ 0 ∧ r.lang = l ∧ r.concept = c := by
  constructor
  · rintro ⟨ids, h⟩
    obtain ⟨v, hv, hcv⟩ := List.mem_map.mp ((mem_keyed _ _ c ids).mp h).1
    obtain ⟨hv0, r, hr, rfl, hl, hc⟩ := (mem_listOfCol_concept rows cols hu l j hj c v).mp ⟨hv, hcv⟩
    exact ⟨r, hr, hv0, hl, hc⟩
  · rintro ⟨r, hr, h0, rfl, rfl⟩
    obtain ⟨ids, h, _⟩ := C12_dictOfCol_keys rows cols hu r hr h0 j hj
    exact ⟨ids, h⟩

/-- **the views are dictionaries**: every key occurs once -/
theorem C12_dict_keys_nodup (rows : List Row) (cols : List Nat) (l c : Nat) :
    ((dictOfCol rows cols l).map (·.1)).Nodup ∧ ((dictOfRow rows c).map (·.1)).Nodup :=
  ⟨keyed_keys_nodup _ _, keyed_keys_nodup _ _⟩

/-- a word list with a synonym pair and a gap: the statements are about something -/
example : dictOfCol [⟨1, 1, 1, [1]⟩, ⟨2, 1, 2, [1]⟩, ⟨3, 2, 1, [2]⟩, ⟨4, 1, 1, [3]⟩] [1, 2] 1 = [(1, [1, 4]), (2, [3])] ∧
    dictOfRow [⟨1, 1, 1, [1]⟩, ⟨2, 1, 2, [1]⟩, ⟨3, 2, 1, [2]⟩, ⟨4, 1, 1, [3]⟩] 1 = [(1, [1, 4]), (2, [2])] := by decide

end Verif.WL
