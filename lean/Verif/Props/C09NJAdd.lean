import Verif.Props.C09Cherry
import Verif.Lemmas.RatCarrier
import Verif.Props.C09NJ
import Verif.Props.C05Order
/-!
# C09 — the model of `_neighbor` on additive input (exact arithmetic, carrier `ℚ`)

`Props/C09Cherry.lean` is about numbers; this file ties it to the executable model `njStep` of
`Model/TreeBuild.lean`: the row sums, the averages, the criterion, the pair `argMin` picks, the
condensed vector and its `squareform`.
-/
namespace Verif.TreeBuild
open Verif.Align Verif.Cluster ScoreOps ScoreLaws Verif.NJ

@[simp] theorem q_two : (two : ℚ) = 2 := by simp only [two, q_add, q_one]; norm_num

theorem getD_map_range {α : Type} (n : Nat) (f : Nat → α) (i : Nat) (d : α) (h : i < n) :
    ((List.range n).map f).getD i d = f i := by
  simp [List.getD_eq_getElem?_getD, h]

theorem list_sum_getD (l : List ℚ) : l.sum = ∑ m ∈ Finset.range l.length, l.getD m 0 := by
  induction l with
  | nil => simp
  | cons x xs ih =>
    rw [List.length_cons, Finset.sum_range_succ', List.sum_cons, ih]
    simp [add_comm]

/-- the hypothesis on the input matrix of `C09_nj_path_sums`; every join re-establishes it (`squareform_rep`) -/
structure Rep (k : Nat) (M : List (List ℚ)) (D : Nat → Nat → ℚ) : Prop where
  rows : M.length = k
  cols : ∀ i < k, (M.getD i []).length = k
  val : ∀ i < k, ∀ j < k, mget M i j = D i j

theorem rep_rowSum (k : Nat) (M : List (List ℚ)) (D : Nat → Nat → ℚ) (hR : Rep k M D) (i : Nat) (hi : i < k) :
    (M.getD i []).sum = ∑ m ∈ Finset.range k, D i m := by
  rw [list_sum_getD, hR.cols i hi]
  apply Finset.sum_congr rfl
  intro m hm
  exact hR.val i hi m (by simpa using hm)

theorem eq_of_increasing {l₁ l₂ : List Nat} (h1 : l₁.Pairwise (· < ·)) (h2 : l₂.Pairwise (· < ·))
    (h : ∀ m, m ∈ l₁ ↔ m ∈ l₂) : l₁ = l₂ :=
  List.Perm.eq_of_pairwise (fun a b _ _ h1 h2 => by omega) h1 h2
    ((List.perm_ext_iff_of_nodup (h1.imp Nat.ne_of_lt) (h2.imp Nat.ne_of_lt)).mpr h)

theorem filter_gt_range (n x : Nat) : (List.range n).filter (fun y => x < y) = List.range' (x + 1) (n - (x + 1)) :=
  eq_of_increasing (List.pairwise_lt_range.filter _) List.pairwise_lt_range' fun m => by
    simp only [List.mem_filter, List.mem_range, decide_eq_true_eq, List.mem_range'_1]
    omega

theorem range_split {x n : Nat} (h : x < n) :
    List.range n = List.range x ++ x :: List.range' (x + 1) (n - (x + 1)) := by
  have := @List.range'_append_1 0 x (n - (x + 1) + 1)
  rw [Nat.zero_add, show x + (n - (x + 1) + 1) = n by omega] at this
  rw [List.range_eq_range', List.range_eq_range', ← List.range'_succ, this]

def condOf (n : Nat) (f : Nat → Nat → ℚ) : List ℚ :=
  (List.range n).flatMap fun x => ((List.range n).filter fun y => x < y).map (f x)

theorem tri_succ (x : Nat) : (x + 1) * (x + 1 + 1) / 2 = x * (x + 1) / 2 + (x + 1) := by
  have : (x + 1) * (x + 1 + 1) = x * (x + 1) + 2 * (x + 1) := by ring
  rw [this, Nat.add_mul_div_left _ _ (by norm_num : 0 < 2)]

theorem cond_prefix_length {β : Type} (n : Nat) (r : Nat → List β) (hr : ∀ x', (r x').length = n - (x' + 1))
    (x : Nat) (hx : x ≤ n) : ((List.range x).flatMap r).length + x * (x + 1) / 2 = x * n := by
  induction x with
  | zero => simp
  | succ x ih =>
    have ih' := ih (by omega)
    rw [List.range_succ, List.flatMap_append, List.length_append, List.flatMap_singleton, hr, tri_succ, Nat.succ_mul]
    omega

theorem getElem?_flatMap_range {β : Type} (r : Nat → List β) {n x j : Nat} (hx : x < n) (hj : j < (r x).length) :
    ((List.range n).flatMap r)[((List.range x).flatMap r).length + j]? = (r x)[j]? := by
  rw [range_split hx, List.flatMap_append, List.flatMap_cons, List.getElem?_append_right (Nat.le_add_right _ _),
    Nat.add_sub_cancel_left, List.getElem?_append_left hj]

theorem condOf_getD (n : Nat) (f : Nat → Nat → ℚ) (x y : Nat) (hxy : x < y) (hy : y < n) :
    (condOf n f).getD (x * n - x * (x + 1) / 2 + (y - x - 1)) 0 = f x y := by
  -- the offset `x * n - x * (x + 1) / 2` is the length of the rows before `x`
  have hlen : ∀ x', ((List.range' (x' + 1) (n - (x' + 1))).map (f x')).length = n - (x' + 1) := fun x' => by simp
  simp only [condOf, filter_gt_range]
  rw [← cond_prefix_length n _ hlen x (by omega), Nat.add_sub_cancel, List.getD_eq_getElem?_getD,
    getElem?_flatMap_range _ (by omega) (by rw [hlen]; omega), List.getElem?_map, List.getElem?_range' (by omega)]
  simp only [Option.map_some, Option.getD_some]
  congr 1
  omega

theorem squareform_rep (n : Nat) (f : Nat → Nat → ℚ) (D : Nat → Nat → ℚ)
    (hD : ∀ x y, x < y → y < n → f x y = D x y) (hsym : ∀ x y, D x y = D y x) (hself : ∀ x, D x x = 0) :
    Rep n (squareform n (condOf n f)) D := by
  refine ⟨by rw [squareform, List.length_map, List.length_range], fun i hi => ?_, fun i hi j hj => ?_⟩
  · rw [squareform, getD_map_range n _ i _ hi, List.length_map, List.length_range]
  · rw [mget, squareform, getD_map_range n _ i _ hi, getD_map_range n _ j _ hj]
    rcases Nat.lt_trichotomy i j with h | rfl | h
    · rw [if_pos h]
      exact (condOf_getD n f i j h hj).trans (hD i j h hj)
    · rw [if_neg (Nat.lt_irrefl i), if_neg (Nat.lt_irrefl i), hself]
      rfl
    · rw [if_neg (by omega), if_pos h, hsym]
      exact (condOf_getD n f j i h hi).trans (hD j i h hi)

theorem up_mono (b x y : Nat) (h : x < y) : up b x < up b y := by unfold up; split <;> split <;> omega

theorem up_inj (b x y : Nat) (h : up b x = up b y) : x = y := by
  unfold up at h; split at h <;> split at h <;> omega

theorem up_surj (k b x : Nat) (hb : b < k) (hx : x < k) (hxb : x ≠ b) : ∃ x', x' < k - 1 ∧ up b x' = x := by
  by_cases h : x < b
  · exact ⟨x, by omega, by simp [up, h]⟩
  · exact ⟨x - 1, by omega, by unfold up; split <;> omega⟩

theorem keys_eq (k ib : Nat) (hb : ib < k) :
    (List.range k).filter (· != ib) = (List.range (k - 1)).map (up ib) :=
  eq_of_increasing (List.pairwise_lt_range.filter _)
    (List.pairwise_map.mpr (List.pairwise_lt_range.imp fun h => up_mono ib _ _ h)) fun m => by
    simp only [List.mem_filter, List.mem_range, List.mem_map, bne_iff_ne, ne_eq]
    constructor
    · exact fun ⟨hm, hne⟩ => up_surj k ib m hb hm hne
    · rintro ⟨x, hx, rfl⟩
      exact ⟨up_lt k ib x hb hx, up_ne ib x⟩

theorem zipIdx_map_range {α : Type} (n : Nat) (f : Nat → α) :
    ((List.range n).map f).zipIdx = (List.range n).map fun x => (f x, x) := by
  apply List.ext_getElem
  · simp
  · intro i h1 h2
    simp only [List.getElem_zipIdx, List.getElem_map, List.getElem_range, Nat.zero_add]

theorem cond_eq (k' ib : Nat) (G : Nat × Nat → Nat × Nat → ℚ) :
    (((List.range k').map fun x => (up ib x, x)).flatMap fun (x : Nat × Nat) =>
      ((((List.range k').map fun x => (up ib x, x))).filter fun (y : Nat × Nat) => x.2 < y.2).map (G x)) =
      condOf k' (fun x y => G (up ib x, x) (up ib y, y)) := by
  simp [condOf, List.flatMap_map, List.filter_map, Function.comp_def]

theorem up_lt_self (b x : Nat) (h : x < b) : up b x = x := by simp [up, h]

theorem reduce_dist_joined (L : List (Split × ℚ)) (a b x y : Nat) (hx : up b x = a) :
    dist (reduce L a b) x y = (dist L a (up b y) + dist L b (up b y) - dist L a b) / 2 := by
  rw [← reduce_joined L a b (up b y)]
  simp only [dist, reduce, List.map_map, Function.comp_def, sep, hx]

theorem njAv_additive (st : NState ℚ) (L : List (Split × ℚ)) (hR : Rep st.clusters.length st.matrix (dist L))
    (i : Nat) (hi : i < st.clusters.length) :
    njAv st i = rowSum st.clusters.length L i / ((st.clusters.length : ℚ) - 2) := by
  have hi' : i < st.matrix.length := hR.rows ▸ hi
  rw [njAv, ← List.getElem_eq_getD (h := by rwa [List.length_map]) zero, List.getElem_map, List.getElem_eq_getD []]
  simp only [q_div, q_sum, q_sub, q_ofNat, q_two]
  rw [rep_rowSum _ _ _ hR i hi]
  rfl

theorem njQ_additive (st : NState ℚ) (L : List (Split × ℚ)) (hR : Rep st.clusters.length st.matrix (dist L))
    (hk : 3 ≤ st.clusters.length) (x y : Nat) (hx : x < st.clusters.length) (hy : y < st.clusters.length) :
    njQ st x y = Qc st.clusters.length L x y / ((st.clusters.length : ℚ) - 2) := by
  have hk2 : ((st.clusters.length : ℚ) - 2) ≠ 0 := by
    have : (3 : ℚ) ≤ (st.clusters.length : ℚ) := by exact_mod_cast hk
    linarith
  rw [njQ, njAv_additive st L hR x hx, njAv_additive st L hR y hy, hR.val y hy x hx]
  simp only [q_sub, Qc]
  rw [dist_comm L y x]
  field_simp
  ring

theorem njStep_additive (st st' : NState ℚ) (L : List (Split × ℚ)) (hk : 3 ≤ st.clusters.length)
    (hS : System st.clusters.length L) (hR : Rep st.clusters.length st.matrix (dist L))
    (h : njStep st = some st') :
    ∃ ia ib sA sB, ia < ib ∧ ib < st.clusters.length ∧ IsCherry st.clusters.length L ia ib ∧
      System (st.clusters.length - 1) (reduce L ia ib) ∧
      Rep (st.clusters.length - 1) st'.matrix (dist (reduce L ia ib)) ∧
      st'.clusters = (List.range (st.clusters.length - 1)).map (fun x =>
        if up ib x = ia then st.clusters.getD ia [] ++ st.clusters.getD ib [] else st.clusters.getD (up ib x) []) ∧
      st'.tracer = st.tracer ++ [(st.clusters.getD ia [] ++ st.clusters.getD ib [], (st.tracer.map (·.2)).foldl max 0 + 1)] ∧
      st'.rows = st.rows ++ [(traceId st.tracer (st.clusters.getD ia []), traceId st.tracer (st.clusters.getD ib []), sA, sB)] ∧
      sA + sB = dist L ia ib ∧
      ∀ z < st.clusters.length, z ≠ ia → z ≠ ib →
        sA + (dist L ia z + dist L ib z - dist L ia ib) / 2 = dist L ia z ∧
        sB + (dist L ia z + dist L ib z - dist L ia ib) / 2 = dist L ib z := by
  obtain ⟨i, j, m, heq, rfl⟩ := njStep_eq st st' hk h
  obtain ⟨hij, hj, hm⟩ := (mem_njPairs st i j m).mp (argMin_mem _ _ _ heq)
  have hi : i < st.clusters.length := by omega
  have hk2 : ((st.clusters.length : ℚ) - 2) > 0 := by
    have : (3 : ℚ) ≤ (st.clusters.length : ℚ) := by exact_mod_cast hk
    linarith
  have hmin : ∀ x y, x < st.clusters.length → y < st.clusters.length → x ≠ y →
      Qc st.clusters.length L i j ≤ Qc st.clusters.length L x y := by
    have hlt : ∀ x y, x < y → y < st.clusters.length →
        Qc st.clusters.length L i j ≤ Qc st.clusters.length L x y := by
      intro x y hxy hy
      have hle := argMin_le _ _ _ heq ((x, y), njQ st x y) ((mem_njPairs st x y _).mpr ⟨hxy, hy, rfl⟩)
      simp only at hle
      rw [← hm, njQ_additive st L hR hk i j hi hj, njQ_additive st L hR hk x y (by omega) hy] at hle
      exact (div_le_div_iff_of_pos_right hk2).mp hle
    intro x y hx hy hxy
    rcases Nat.lt_or_gt_of_ne hxy with hlt' | hgt
    · exact hlt x y hlt' hy
    · rw [Qc_comm _ L x y]
      exact hlt y x hgt hx
  have hch : IsCherry st.clusters.length L i j :=
    isCherry_of_trivial _ L i j hi hj (argmin_is_cherry _ L hS i j hi hj hmin)
  -- tracer and rows are as the model writes them; the two branch lengths are read off the row
  refine ⟨i, j, _, _, hij, hj, hch, reduce_system _ L i j hj hS, ?matrix, ?clusters, rfl, rfl, ?branches, ?update⟩
  case matrix =>
    rw [keys_eq _ j hj, zipIdx_map_range, cond_eq]
    apply squareform_rep
    · intro x y hxy hy
      have hux : up j x < st.clusters.length := up_lt _ j x hj (by omega)
      have huy : up j y < st.clusters.length := up_lt _ j y hj hy
      simp only [hR.val _ hux _ huy, hR.val i hi _ huy, hR.val j hj _ huy, hR.val i hi _ hux, hR.val j hj _ hux,
        hR.val i hi j hj, q_div, q_sub, q_add, q_two]
      by_cases hxa : up j x = i
      · rw [reduce_dist_joined L i j x y hxa]
        simp [hxa]
      · by_cases hya : up j y = i
        · rw [dist_comm (reduce L i j) x y, reduce_dist_joined L i j y x hya]
          simp [hxa, hya]
        · rw [reduce_other _ L i j hch x y hux huy hxa hya]
          simp [hxa, hya]
    · intro x y; exact dist_comm _ x y
    · intro x; exact dist_self _ x
  case clusters =>
    rw [keys_eq _ j hj, List.map_map]
    rfl
  case branches =>
    simp only [q_sub, q_add]
    rw [← hR.val i hi j hj]
    ring
  case update =>
    intro z hz hzi hzj
    have hex := cherry_exact _ hk L i j hi hj (by omega) hch z hz hzi hzj
    simp only at hex
    rw [njAv_additive st L hR i hi, njAv_additive st L hR j hj, hR.val i hi j hj]
    simp only [q_sub, q_add, q_div, q_two]
    exact hex

end Verif.TreeBuild
