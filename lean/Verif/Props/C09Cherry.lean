import Mathlib.Algebra.BigOperators.Ring.Finset
import Mathlib.Algebra.Order.BigOperators.Group.List
import Mathlib.Tactic.Linarith
import Mathlib.Tactic.Ring
import Mathlib.Tactic.FieldSimp
/-!
# C09 — Neighbor-Joining on additive input: the selection criterion picks a cherry

An additive (tree) metric on the points `0 … k-1` is given here the way phylogenetics writes it without
drawing a tree: as a weighted **split system** – every edge of the generating tree cuts the points in two
sides (`Split = Nat → Bool`), the distance of two points is the total weight of the splits that separate
them, and two splits of one tree are *compatible* (one of the four side intersections is empty).

Facts proved (all over `ℚ`, no bound on `k`):

* `Qc_eq_coef` – the Saitou–Nei criterion `(k-2)·d(x,y) − R(x) − R(y)` is the weighted sum, over the splits,
  of a coefficient that is `-2` when the split separates the pair and `-2·|far side|` when it does not;
* `exists_cherry` – inside every side with at least two points there is a pair that no non-trivial split
  separates (a cherry);
* `better_pair` – if a non-trivial split of positive weight separates `i` and `j`, some pair has a strictly
  smaller criterion.  Hence (`argmin_is_cherry`) a pair of minimal criterion is separated by trivial splits
  only – the two points hang on one inner node of the generating tree.
-/
namespace Verif.NJ
open Finset

abbrev Split := Nat → Bool

def sideCard (k : Nat) (s : Split) (b : Bool) : Nat := ((range k).filter fun m => s m = b).card

theorem sideCard_add (k : Nat) (s : Split) (b : Bool) : sideCard k s b + sideCard k s (!b) = k := by
  unfold sideCard
  have h : ((range k).filter fun m => s m = (!b)) = (range k).filter fun m => ¬ s m = b := by
    apply Finset.filter_congr
    intro m _
    cases s m <;> cases b <;> simp
  rw [h, Finset.card_filter_add_card_filter_not]
  simp

theorem sideCard_mono (k : Nat) (s t : Split) (a b : Bool) (h : ∀ m < k, s m = a → t m = b) :
    sideCard k s a ≤ sideCard k t b := by
  unfold sideCard
  apply Finset.card_le_card
  intro m hm
  simp only [mem_filter, mem_range] at hm ⊢
  exact ⟨hm.1, h m hm.1 hm.2⟩

theorem sideCard_pos (k : Nat) (s : Split) (x : Nat) (hx : x < k) : 1 ≤ sideCard k s (s x) := by
  unfold sideCard
  apply Finset.card_pos.mpr
  exact ⟨x, by simp [hx]⟩

theorem sideCard_two (k : Nat) (s : Split) (c : Bool) (x y : Nat) (hx : x < k) (hy : y < k) (hxy : x ≠ y)
    (hsx : s x = c) (hsy : s y = c) : 2 ≤ sideCard k s c :=
  Finset.one_lt_card.mpr ⟨x, by simp [hx, hsx], y, by simp [hy, hsy], hxy⟩

theorem exists_two (k : Nat) (s : Split) (b : Bool) (h : 2 ≤ sideCard k s b) :
    ∃ x y, x < k ∧ y < k ∧ x ≠ y ∧ s x = b ∧ s y = b := by
  obtain ⟨x, hx, y, hy, hxy⟩ := Finset.one_lt_card.mp h
  simp only [mem_filter, mem_range] at hx hy
  exact ⟨x, y, hx.1, hy.1, hxy, hx.2, hy.2⟩

def sep (s : Split) (x y : Nat) : ℚ := if s x = s y then 0 else 1

def dist (L : List (Split × ℚ)) (x y : Nat) : ℚ := (L.map fun p => p.2 * sep p.1 x y).sum

def rowSum (k : Nat) (L : List (Split × ℚ)) (x : Nat) : ℚ := ∑ m ∈ range k, dist L x m

/-- the selection criterion, multiplied by `k - 2` -/
def Qc (k : Nat) (L : List (Split × ℚ)) (x y : Nat) : ℚ :=
  ((k : ℚ) - 2) * dist L x y - rowSum k L x - rowSum k L y

def coef (k : Nat) (s : Split) (x y : Nat) : ℚ :=
  if s x = s y then -2 * (sideCard k s (!s x) : ℚ) else -2

/-- the weighted sum over the splits of a quantity of one split.  `dist`, the row sums and the criterion are such sums,
so an identity between them is an identity about a single split (`wsum_congr`) -/
def wsum (L : List (Split × ℚ)) (f : Split → ℚ) : ℚ := (L.map fun p => p.2 * f p.1).sum

theorem dist_eq_wsum (L : List (Split × ℚ)) (x y : Nat) : dist L x y = wsum L fun s => sep s x y := rfl

theorem wsum_cons (p : Split × ℚ) (L : List (Split × ℚ)) (f : Split → ℚ) : wsum (p :: L) f = p.2 * f p.1 + wsum L f := by
  simp [wsum]

theorem wsum_append (L1 L2 : List (Split × ℚ)) (f : Split → ℚ) : wsum (L1 ++ L2) f = wsum L1 f + wsum L2 f := by
  simp [wsum]

theorem wsum_congr {L : List (Split × ℚ)} {f g : Split → ℚ} (h : ∀ p ∈ L, f p.1 = g p.1) : wsum L f = wsum L g := by
  unfold wsum
  exact congrArg List.sum (List.map_congr_left fun p hp => by rw [h p hp])

theorem wsum_zero (L : List (Split × ℚ)) : wsum L (fun _ => 0) = 0 := by simp [wsum]

theorem wsum_add (L : List (Split × ℚ)) (f g : Split → ℚ) : wsum L (fun s => f s + g s) = wsum L f + wsum L g := by
  simp only [wsum, mul_add, List.sum_map_add]

theorem wsum_mul (L : List (Split × ℚ)) (c : ℚ) (f : Split → ℚ) : wsum L (fun s => c * f s) = c * wsum L f := by
  simp only [wsum, mul_left_comm _ c, List.sum_map_mul_left]

theorem wsum_sub (L : List (Split × ℚ)) (f g : Split → ℚ) : wsum L (fun s => f s - g s) = wsum L f - wsum L g :=
  eq_sub_of_add_eq (by rw [← wsum_add]; simp only [sub_add_cancel])

theorem wsum_finsum (L : List (Split × ℚ)) (k : Nat) (f : Nat → Split → ℚ) :
    wsum L (fun s => ∑ m ∈ range k, f m s) = ∑ m ∈ range k, wsum L (f m) := by
  induction L with
  | nil => simp [wsum]
  | cons p L ih => simp only [wsum_cons, ih, Finset.sum_add_distrib, Finset.mul_sum]

theorem wsum_filter (L : List (Split × ℚ)) (P : Split × ℚ → Bool) (f : Split → ℚ)
    (h : ∀ p ∈ L, P p = false → f p.1 = 0) : wsum (L.filter P) f = wsum L f := by
  induction L with
  | nil => rfl
  | cons p L ih =>
    have ih' := ih fun q hq => h q (List.mem_cons_of_mem _ hq)
    cases hP : P p
    · rw [List.filter_cons_of_neg (by simp [hP]), ih', wsum_cons, h p List.mem_cons_self hP]; ring
    · rw [List.filter_cons_of_pos hP, wsum_cons, wsum_cons, ih']

theorem wsum_map (L : List (Split × ℚ)) (g : Split → Split) (f : Split → ℚ) :
    wsum (L.map fun p => (g p.1, p.2)) f = wsum L fun s => f (g s) := by
  simp [wsum, List.map_map, Function.comp_def]

theorem sep_comm (s : Split) (x y : Nat) : sep s x y = sep s y x := by
  unfold sep; simp only [eq_comm]

theorem dist_comm (L : List (Split × ℚ)) (x y : Nat) : dist L x y = dist L y x :=
  wsum_congr (f := fun s => sep s x y) (g := fun s => sep s y x) fun p _ => sep_comm p.1 x y

theorem dist_self (L : List (Split × ℚ)) (x : Nat) : dist L x x = 0 :=
  (wsum_congr (f := fun s => sep s x x) fun p _ => by simp [sep]).trans (wsum_zero L)

theorem Qc_comm (k : Nat) (L : List (Split × ℚ)) (x y : Nat) : Qc k L x y = Qc k L y x := by
  unfold Qc
  rw [dist_comm]
  ring

theorem sum_sep (k : Nat) (s : Split) (x : Nat) : ∑ m ∈ range k, sep s x m = (sideCard k s (!s x) : ℚ) := by
  unfold sep sideCard
  rw [Finset.card_filter]
  push_cast
  apply Finset.sum_congr rfl
  intro m _
  cases s x <;> cases s m <;> simp

theorem coef_eq (k : Nat) (s : Split) (x y : Nat) :
    ((k : ℚ) - 2) * sep s x y - ∑ m ∈ range k, sep s x m - ∑ m ∈ range k, sep s y m = coef k s x y := by
  rw [sum_sep, sum_sep]
  unfold coef sep
  by_cases h : s x = s y
  · simp only [h, if_true]; ring
  · simp only [h, if_false]
    have hy : s y = !s x := Bool.eq_not_of_ne fun e => h e.symm
    have := sideCard_add k s (!s x)
    rw [hy]
    simp only [Bool.not_not] at this ⊢
    have hk : (k : ℚ) = (sideCard k s (!s x) : ℚ) + (sideCard k s (s x) : ℚ) := by exact_mod_cast this.symm
    rw [hk]; ring

theorem Qc_eq_coef (k : Nat) (L : List (Split × ℚ)) (x y : Nat) :
    Qc k L x y = (L.map fun p => p.2 * coef k p.1 x y).sum := by
  unfold Qc rowSum
  simp only [dist_eq_wsum, ← wsum_finsum, ← wsum_mul, ← wsum_sub]
  exact wsum_congr (g := fun s => coef k s x y) fun p _ => coef_eq k p.1 x y

def Compat (k : Nat) (s t : Split) : Prop := ∃ a b : Bool, ∀ m < k, ¬ (s m = a ∧ t m = b)

def Nontriv (k : Nat) (s : Split) : Prop := 2 ≤ sideCard k s true ∧ 2 ≤ sideCard k s false

/-- the edges of a tree give such a list (Props/C09Tree.lean).  Positivity makes a non-minimal pair strictly worse
(`wsum_lt`), compatibility yields a cherry (`exists_cherry`) -/
structure System (k : Nat) (L : List (Split × ℚ)) : Prop where
  pos : ∀ p ∈ L, 0 < p.2
  compat : ∀ p ∈ L, ∀ q ∈ L, Compat k p.1 q.1

theorem compat_symm (k : Nat) (s t : Split) (h : Compat k s t) : Compat k t s := by
  obtain ⟨a, b, hab⟩ := h
  exact ⟨b, a, fun m hm hh => hab m hm ⟨hh.2, hh.1⟩⟩

theorem compat_of_sub {k : Nat} {s t : Split} (a b : Bool) (h : ∀ m < k, s m = a → t m = b) : Compat k s t :=
  ⟨a, !b, fun m hm ⟨hs, ht⟩ => by rw [h m hm hs] at ht; simp at ht⟩

theorem nontriv_side (k : Nat) (s : Split) (h : Nontriv k s) (b : Bool) : 2 ≤ sideCard k s b := by
  cases b
  exacts [h.2, h.1]

/-- how `Compat` is used: no point in the corner `(a, b)` puts side `a` of the one split inside side `!b` of the other -/
theorem side_of_corner {u v a b : Bool} (h : ¬ (u = a ∧ v = b)) (hu : u = a) : v = !b :=
  Bool.eq_not_of_ne fun hv => h ⟨hu, hv⟩

theorem sideCard_lt (k : Nat) (s t : Split) (a b : Bool) (h : ∀ m < k, s m = a → t m = b)
    (x : Nat) (hx : x < k) (hxt : t x = b) (hxs : s x ≠ a) : sideCard k s a < sideCard k t b := by
  unfold sideCard
  apply Finset.card_lt_card
  refine (Finset.ssubset_iff_of_subset fun m hm => ?_).mpr ⟨x, ?_, ?_⟩
  · simp only [mem_filter, mem_range] at hm ⊢
    exact ⟨hm.1, h m hm.1 hm.2⟩
  · simp [hx, hxt]
  · simp [hxs]

theorem exists_cherry (k : Nat) (L : List (Split × ℚ)) (hC : ∀ p ∈ L, ∀ q ∈ L, Compat k p.1 q.1) :
    ∀ n, ∀ p ∈ L, ∀ b, sideCard k p.1 b = n → 2 ≤ n →
      ∃ x y, x < k ∧ y < k ∧ x ≠ y ∧ p.1 x = b ∧ p.1 y = b ∧ ∀ q ∈ L, Nontriv k q.1 → q.1 x = q.1 y := by
  intro n
  induction n using Nat.strong_induction_on with
  | _ n ih =>
    intro p hp b hn h2
    obtain ⟨x, y, hx, hy, hxy, hpx, hpy⟩ := exists_two k p.1 b (by omega)
    by_cases hall : ∀ q ∈ L, Nontriv k q.1 → q.1 x = q.1 y
    · exact ⟨x, y, hx, hy, hxy, hpx, hpy, hall⟩
    · push Not at hall
      obtain ⟨q, hq, hnt, hne⟩ := hall
      obtain ⟨a, c, hac⟩ := hC p hp q hq
      -- the empty corner is not on side b of p, or x and y would both be on side !c of q
      have hab : a = !b := Bool.eq_not_of_ne fun hab =>
        hne ((side_of_corner (hac x hx) (hpx.trans hab.symm)).trans
          (side_of_corner (hac y hy) (hpy.trans hab.symm)).symm)
      -- so side c of q lies inside side b of p, strictly since it misses one of x, y: recurse into it
      have hsub : ∀ m < k, q.1 m = c → p.1 m = b := fun m hm hqm => by
        rw [side_of_corner (hac m hm ∘ And.symm) hqm, hab, Bool.not_not]
      have hlt : sideCard k q.1 c < n := by
        rw [← hn]
        by_cases hxc : q.1 x = c
        · exact sideCard_lt k q.1 p.1 c b hsub y hy hpy fun hyc => hne (hxc.trans hyc.symm)
        · exact sideCard_lt k q.1 p.1 c b hsub x hx hpx hxc
      obtain ⟨x', y', hx', hy', hxy', hqx', hqy', hch⟩ :=
        ih (sideCard k q.1 c) hlt q hq c rfl (nontriv_side k q.1 hnt c)
      exact ⟨x', y', hx', hy', hxy', hsub x' hx' hqx', hsub y' hy' hqy', hch⟩

theorem side_cases : ∀ {u v : Bool}, u ≠ v → ∀ c : Bool, u = c ∨ v = c := by decide

/-- of the four corners of two compatible splits one is empty: when three hold a point it is the fourth -/
theorem compat_fourth (k : Nat) (s t : Split) (h : Compat k s t) (A B : Bool) (u v w : Nat)
    (hu : u < k) (hv : v < k) (hw : w < k) (su : s u = A) (tu : t u = B) (sv : s v = A) (tv : t v = !B)
    (sw : s w = !A) (tw : t w = B) : ∀ m < k, s m = !A → t m = B := by
  obtain ⟨a, c, hac⟩ := h
  -- the empty corner `(a, c)` is not on side `A` of `s`, where both sides of `t` are met
  have ha : a = !A := Bool.eq_not_of_ne fun ha => by
    have h1 := side_of_corner (hac u hu) (su.trans ha.symm)
    have h2 := side_of_corner (hac v hv) (sv.trans ha.symm)
    rw [tu] at h1
    rw [tv, ← h1] at h2
    simp at h2
  intro m hm sm
  rw [side_of_corner (hac m hm) (sm.trans ha.symm), ← side_of_corner (hac w hw) (sw.trans ha.symm), tw]

theorem neg_two_mul_le {a b : Nat} (h : a ≤ b) : -2 * (b : ℚ) ≤ -2 * (a : ℚ) :=
  mul_le_mul_of_nonpos_left (Nat.cast_le.mpr h) (by norm_num)

/-- a cherry on the smaller side of a separating split is at least as good on every split -/
theorem coef_le (k : Nat) (e q : Split) (i j x y : Nat) (hi : i < k) (hj : j < k) (hx : x < k)
    (hij : e i ≠ e j) (hex : e x = e i)
    (hsmall : sideCard k e (e i) ≤ sideCard k e (!e i))
    (hc : Compat k q e) (hch : Nontriv k q → q x = q y) :
    coef k q x y ≤ coef k q i j := by
  have hijne : i ≠ j := fun h => hij (by rw [h])
  unfold coef
  by_cases hxy : q x = q y
  · simp only [hxy, if_true]
    by_cases hqij : q i = q j
    · simp only [hqij, if_true]
      by_cases hb : q y = q j
      · rw [hb]
      · -- i, j on the other side of q: that side holds all of the larger side of e
        have hnot : q y = !q j := Bool.eq_not_of_ne hb
        have hsub := compat_fourth k q e hc (A := q j) (B := e i) (u := i) (v := j) (w := x) hi hj hx
          (su := hqij) (tu := rfl) (sv := rfl) (tv := Bool.eq_not_of_ne fun h => hij h.symm)
          (sw := hxy.trans hnot) (tw := hex)
        have s1 := sideCard_mono k q e (!q j) (e i) hsub
        have h1 := sideCard_add k q (q j)
        have h2 := sideCard_add k e (e i)
        rw [hnot, Bool.not_not]
        exact neg_two_mul_le (by omega)
    · simp only [hqij, if_false]
      -- one of i, j is on the side away from x, y
      have h1 : 1 ≤ sideCard k q (!q y) := by
        rcases side_cases hqij (!q y) with h | h
        · exact h ▸ sideCard_pos k q i hi
        · exact h ▸ sideCard_pos k q j hj
      simpa using neg_two_mul_le h1
  · simp only [hxy, if_false]
    by_cases hqij : q i = q j
    · simp only [hqij, if_true]
      -- q is trivial and i, j share a side, so the other side has at most one point
      have h2 := sideCard_two k q (q j) i j hi hj hijne hqij rfl
      have hle : sideCard k q (!q j) ≤ 1 := by
        by_contra hcon
        have hs : ∀ b, 2 ≤ sideCard k q b := fun b => by
          rcases Bool.eq_or_eq_not b (q j) with rfl | rfl <;> omega
        exact hxy (hch ⟨hs true, hs false⟩)
      simpa using neg_two_mul_le hle
    · simp only [hqij, if_false]; exact le_refl _

theorem coef_lt (k : Nat) (e : Split) (i j x y : Nat) (hij : e i ≠ e j) (hex : e x = e i) (hey : e y = e i)
    (hnt : Nontriv k e) : coef k e x y < coef k e i j := by
  unfold coef
  simp only [hij, if_false, hex, hey, if_true]
  exact (neg_two_mul_le (nontriv_side k e hnt (!e i))).trans_lt (by norm_num)

theorem wsum_lt (L : List (Split × ℚ)) (f g : Split → ℚ) (hpos : ∀ p ∈ L, 0 < p.2)
    (hle : ∀ p ∈ L, f p.1 ≤ g p.1) (e : Split × ℚ) (he : e ∈ L) (hlt : f e.1 < g e.1) : wsum L f < wsum L g :=
  List.sum_lt_sum _ _ (fun p hp => mul_le_mul_of_nonneg_left (hle p hp) (hpos p hp).le)
    ⟨e, he, mul_lt_mul_of_pos_left hlt (hpos e he)⟩

theorem better_pair_small (k : Nat) (L : List (Split × ℚ)) (hS : System k L) (e : Split × ℚ) (he : e ∈ L)
    (hnt : Nontriv k e.1) (i j : Nat) (hi : i < k) (hj : j < k) (hij : e.1 i ≠ e.1 j)
    (hsmall : sideCard k e.1 (e.1 i) ≤ sideCard k e.1 (!e.1 i)) :
    ∃ x y, x < k ∧ y < k ∧ x ≠ y ∧ Qc k L x y < Qc k L i j := by
  obtain ⟨x, y, hx, hy, hxy, hex, hey, hch⟩ :=
    exists_cherry k L hS.compat _ e he (e.1 i) rfl (nontriv_side k e.1 hnt _)
  refine ⟨x, y, hx, hy, hxy, ?_⟩
  rw [Qc_eq_coef, Qc_eq_coef]
  exact wsum_lt L (fun s => coef k s x y) (fun s => coef k s i j) hS.pos
    (fun q hq => coef_le k e.1 q.1 i j x y hi hj hx hij hex hsmall (hS.compat q hq e he) (hch q hq))
    e he (coef_lt k e.1 i j x y hij hex hey hnt)

theorem better_pair (k : Nat) (L : List (Split × ℚ)) (hS : System k L) (e : Split × ℚ) (he : e ∈ L)
    (hnt : Nontriv k e.1) (i j : Nat) (hi : i < k) (hj : j < k) (hij : e.1 i ≠ e.1 j) :
    ∃ x y, x < k ∧ y < k ∧ x ≠ y ∧ Qc k L x y < Qc k L i j := by
  by_cases hsmall : sideCard k e.1 (e.1 i) ≤ sideCard k e.1 (!e.1 i)
  · exact better_pair_small k L hS e he hnt i j hi hj hij hsmall
  · have hej : e.1 j = !e.1 i := Bool.eq_not_of_ne (fun h => hij h.symm)
    have hsm : sideCard k e.1 (e.1 j) ≤ sideCard k e.1 (!e.1 j) := by
      rw [hej]
      simp only [Bool.not_not]
      omega
    obtain ⟨x, y, hx, hy, hxy, hlt⟩ := better_pair_small k L hS e he hnt j i hj hi (fun h => hij h.symm) hsm
    exact ⟨x, y, hx, hy, hxy, by rwa [Qc_comm k L i j]⟩

theorem argmin_is_cherry (k : Nat) (L : List (Split × ℚ)) (hS : System k L) (i j : Nat) (hi : i < k) (hj : j < k)
    (hmin : ∀ x y, x < k → y < k → x ≠ y → Qc k L i j ≤ Qc k L x y) :
    ∀ e ∈ L, Nontriv k e.1 → e.1 i = e.1 j := by
  intro e he hnt
  by_contra hne
  obtain ⟨x, y, hx, hy, hxy, hlt⟩ := better_pair k L hS e he hnt i j hi hj hne
  have := hmin x y hx hy hxy
  linarith

def IsCherry (k : Nat) (L : List (Split × ℚ)) (a b : Nat) : Prop :=
  ∀ p ∈ L, p.1 a ≠ p.1 b → ∀ z z', z < k → z' < k → z ≠ a → z ≠ b → z' ≠ a → z' ≠ b → p.1 z = p.1 z'

theorem isCherry_of_trivial (k : Nat) (L : List (Split × ℚ)) (a b : Nat) (ha : a < k) (hb : b < k)
    (h : ∀ e ∈ L, Nontriv k e.1 → e.1 a = e.1 b) : IsCherry k L a b := by
  intro p hp hne z z' hz hz' hza hzb hz'a hz'b
  by_contra hzz
  -- each side of p holds one of a, b and one of z, z': p is non-trivial
  have hside : ∀ c : Bool, 2 ≤ sideCard k p.1 c := fun c => by
    rcases side_cases hne c with h1 | h1 <;> rcases side_cases hzz c with h2 | h2
    · exact sideCard_two k p.1 c a z ha hz (Ne.symm hza) h1 h2
    · exact sideCard_two k p.1 c a z' ha hz' (Ne.symm hz'a) h1 h2
    · exact sideCard_two k p.1 c b z hb hz (Ne.symm hzb) h1 h2
    · exact sideCard_two k p.1 c b z' hb hz' (Ne.symm hz'b) h1 h2
  exact hne (h p hp ⟨hside true, hside false⟩)

theorem cherry_const (k : Nat) (L : List (Split × ℚ)) (a b : Nat) (hch : IsCherry k L a b)
    (z z' : Nat) (hz : z < k) (hz' : z' < k) (hza : z ≠ a) (hzb : z ≠ b) (hz'a : z' ≠ a) (hz'b : z' ≠ b) :
    dist L a z - dist L b z = dist L a z' - dist L b z' := by
  simp only [dist_eq_wsum, ← wsum_sub]
  refine wsum_congr fun p hp => ?_
  by_cases hab : p.1 a = p.1 b
  · unfold sep
    rw [hab]
    ring
  · unfold sep; rw [hch p hp hab z z' hz hz' hza hzb hz'a hz'b]

/-- the renumbering after deleting index `b` -/
def up (b x : Nat) : Nat := if x < b then x else x + 1

/-- the split system of the joined pair: the splits that separate the pair are gone, the others are renumbered -/
def reduce (L : List (Split × ℚ)) (a b : Nat) : List (Split × ℚ) :=
  (L.filter fun p => p.1 a == p.1 b).map fun p => (fun x => p.1 (up b x), p.2)

theorem up_lt (k b x : Nat) (hb : b < k) (hx : x < k - 1) : up b x < k := by unfold up; split <;> omega
theorem up_ne (b x : Nat) : up b x ≠ b := by unfold up; split <;> omega

theorem reduce_system (k : Nat) (L : List (Split × ℚ)) (a b : Nat) (hb : b < k) (hS : System k L) :
    System (k - 1) (reduce L a b) := by
  constructor
  case pos =>
    simp only [reduce, List.forall_mem_map, List.forall_mem_filter]
    exact fun p hp _ => hS.pos p hp
  case compat =>
    simp only [reduce, List.forall_mem_map, List.forall_mem_filter]
    intro p hp _ q hq _
    obtain ⟨c, d, hcd⟩ := hS.compat p hp q hq
    exact ⟨c, d, fun m hm => hcd (up b m) (up_lt k b m hb hm)⟩

theorem reduce_other (k : Nat) (L : List (Split × ℚ)) (a b : Nat) (hch : IsCherry k L a b)
    (x y : Nat) (hx : up b x < k) (hy : up b y < k) (hxa : up b x ≠ a) (hya : up b y ≠ a) :
    dist (reduce L a b) x y = dist L (up b x) (up b y) := by
  -- a split that separates the cherry keeps the other points together
  rw [dist_eq_wsum, reduce, wsum_map _ fun s x => s (up b x)]
  refine wsum_filter L _ _ fun p hp hab => ?_
  have := hch p hp (by simpa using hab) (up b x) (up b y) hx hy hxa (up_ne b x) hya (up_ne b y)
  simp [sep, this]

/-- the update formula on one split: it passes its term on if it keeps `a`, `b` together, and drops out otherwise -/
theorem sep_joined (s : Split) (a b z : Nat) :
    (sep s a z + sep s b z - sep s a b) / 2 = if s a = s b then sep s a z else 0 := by
  unfold sep
  by_cases hab : s a = s b
  · simp only [hab, if_true]; ring
  · have hba : ¬ s b = s a := fun h => hab h.symm
    rcases side_cases hab (s z) with h | h <;> rw [← h] <;> simp [hab, hba]

/-- the Saitou–Nei update formula; with `dist (reduce …)` on the left: `reduce_dist_joined` (Props/C09NJAdd.lean) -/
theorem reduce_joined (L : List (Split × ℚ)) (a b : Nat) (z : Nat) :
    ((L.filter fun p => p.1 a == p.1 b).map (fun p => p.2 * sep p.1 a z)).sum =
      (dist L a z + dist L b z - dist L a b) / 2 := by
  have hlin : (dist L a z + dist L b z - dist L a b) / 2 =
      wsum L fun s => (sep s a z + sep s b z - sep s a b) / 2 := by
    simp only [dist_eq_wsum, div_eq_inv_mul, wsum_mul, wsum_sub, wsum_add]
  rw [hlin, ← wsum_filter L (fun p => p.1 a == p.1 b) _ fun p _ hab => by
    rw [sep_joined, if_neg (by simpa using hab)]]
  exact wsum_congr (f := fun s => sep s a z) fun p hp => by
    rw [sep_joined, if_pos (by simpa using (List.mem_filter.mp hp).2)]

theorem rowSum_diff (k : Nat) (L : List (Split × ℚ)) (a b : Nat) (ha : a < k) (hb : b < k) (hab : a ≠ b)
    (hch : IsCherry k L a b) (z : Nat) (hz : z < k) (hza : z ≠ a) (hzb : z ≠ b) :
    rowSum k L a - rowSum k L b = ((k : ℚ) - 2) * (dist L a z - dist L b z) := by
  unfold rowSum
  rw [← Finset.sum_sub_distrib]
  have h1 : ∑ m ∈ range k, (dist L a m - dist L b m) =
      ∑ m ∈ range k, ((dist L a m - dist L b m - (dist L a z - dist L b z)) + (dist L a z - dist L b z)) := by
    exact Finset.sum_congr rfl fun m _ => by ring
  rw [h1, Finset.sum_add_distrib, Finset.sum_const, card_range,
    Finset.sum_eq_add a b hab]
  · rw [dist_self, dist_self, dist_comm L b a, nsmul_eq_mul]; ring
  · intro m hm hne
    rw [cherry_const k L a b hch m z (by simpa using hm) hz hne.1 hne.2 hza hzb]; ring
  · intro h; exact absurd (by simpa using ha) h
  · intro h; exact absurd (by simpa using hb) h

/-- **branch lengths and update formula are exact on a cherry** -/
theorem cherry_exact (k : Nat) (hk : 3 ≤ k) (L : List (Split × ℚ)) (a b : Nat) (ha : a < k) (hb : b < k) (hab : a ≠ b)
    (hch : IsCherry k L a b) (z : Nat) (hz : z < k) (hza : z ≠ a) (hzb : z ≠ b) :
    let sA := dist L a b / 2 + (rowSum k L a / ((k : ℚ) - 2) - rowSum k L b / ((k : ℚ) - 2)) / 2
    let sB := dist L a b - sA
    sA + (dist L a z + dist L b z - dist L a b) / 2 = dist L a z ∧
    sB + (dist L a z + dist L b z - dist L a b) / 2 = dist L b z := by
  intro sA sB
  have hk2 : ((k : ℚ) - 2) ≠ 0 := by
    have : (3 : ℚ) ≤ (k : ℚ) := by exact_mod_cast hk
    linarith
  have hd := rowSum_diff k L a b ha hb hab hch z hz hza hzb
  have hr : rowSum k L a / ((k : ℚ) - 2) - rowSum k L b / ((k : ℚ) - 2) = dist L a z - dist L b z := by
    rw [← sub_div, hd]; field_simp
  simp only [sA, sB, hr]
  constructor <;> ring

end Verif.NJ
