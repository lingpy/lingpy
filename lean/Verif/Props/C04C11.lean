import Verif.Props.C11Pass
import Verif.Props.C04Prog
import Verif.Props.C04Gap
/-!
# C04 ∧ C11 — a refinement pass made of real splits: whatever the end-of-pass check decides, the matrix it leaves has the
height, the rectangular shape and the row contents it had before (C04) and a score that is not lower (C11)
-/
namespace Verif.Refine
open Verif.Align Verif.MSA

/-- one index set of the loop of `_iter` as a step function: `_split`, `_align_profile`, `_join` with the index rows the
profile aligner returned -/
def stepOf (g : Nat) (s : Split) : Step := fun m => refineSplit g m s.1 s.2.1 s.2.2

theorem candidate_eq_foldl (g : Nat) (hist : List Split) (m : List (List Nat)) :
    candidate (hist.map (stepOf g)) m = hist.foldl (fun m s => refineSplit g m s.1 s.2.1 s.2.2) m := by
  unfold candidate
  rw [List.foldl_map]
  rfl

variable {S : Type} [ScoreOps S]

/-- **the pass keeps what C04 promises**, whichever way the score comparison goes -/
theorem C11_pass_keeps_C04 (g : Nat) (sp : List (List Nat) → S) (hist : List Split) (msa : List (List Nat))
    (hr : Rect msa) (hok : histOkb g msa hist = true) :
    (iterPass sp (hist.map (stepOf g)) msa).length = msa.length ∧ Rect (iterPass sp (hist.map (stepOf g)) msa) ∧
    (iterPass sp (hist.map (stepOf g)) msa).map (degap g) = msa.map (degap g) :=
  iterPass_ind (P := fun out => out.length = msa.length ∧ Rect out ∧ out.map (degap g) = msa.map (degap g))
    sp _ msa ⟨rfl, hr, rfl⟩ (candidate_eq_foldl g hist msa ▸ C04_history g hist msa hr hok)

/-- no all-gap column before the pass, none after it (rolled back or kept) -/
theorem C11_pass_keeps_nogap (g : Nat) (sp : List (List Nat) → S) (hist : List Split) (msa : List (List Nat))
    (hr : Rect msa) (hok : histOkb g msa hist = true) (hnd : ∀ s ∈ hist, s.1.Nodup) (hg : NoGapCol g msa) :
    NoGapCol g (iterPass sp (hist.map (stepOf g)) msa) := by
  refine iterPass_ind sp _ msa hg ?_
  rw [candidate_eq_foldl]
  by_cases hne : hist = []
  · subst hne; exact hg
  · exact C04_history_nogap g hist msa hne hr hok hnd

/-- **… and what C11 promises**, on an ordered carrier: both properties of one and the same result -/
theorem C04_C11_pass [LinearOrder S] [ScoreLaws S] (g : Nat) (sp : List (List Nat) → S) (hist : List Split)
    (msa : List (List Nat)) (hr : Rect msa) (hok : histOkb g msa hist = true) :
    let out := iterPass sp (hist.map (stepOf g)) msa
    out.length = msa.length ∧ Rect out ∧ out.map (degap g) = msa.map (degap g) ∧ sp msa ≤ sp out := by
  intro out
  obtain ⟨a, b, c⟩ := C11_pass_keeps_C04 g sp hist msa hr hok
  exact ⟨a, b, c, C11_pass_le sp _ msa⟩

end Verif.Refine
