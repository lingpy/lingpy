import Mathlib.Tactic.Order
import Mathlib.Order.Defs.LinearOrder
import Verif.Model.Align
/-!
The laws of a score carrier that the order-dependent theorems use; no associativity, no distributivity.
-/
namespace Verif.Align
open ScoreOps

/-- Proved for `Int` below; for IEEE doubles restricted to finite values they are facts about
round-to-nearest addition (trusted base). -/
class ScoreLaws (S : Type) [ScoreOps S] [LinearOrder S] : Prop where
  le_iff : ∀ a b : S, ScoreOps.le a b = true ↔ a ≤ b
  lt_iff : ∀ a b : S, ScoreOps.lt a b = true ↔ a < b
  add_mono_l : ∀ a b c : S, a ≤ b → add a c ≤ add b c
  add_mono_r : ∀ a b c : S, a ≤ b → add c a ≤ add c b
  sub_mono_l : ∀ a b c : S, a ≤ b → sub a c ≤ sub b c

instance : ScoreLaws Int where
  le_iff a b := by simp [ScoreOps.le]
  lt_iff a b := by simp [ScoreOps.lt]
  add_mono_l a b c h := by simp only [ScoreOps.add]; omega
  add_mono_r a b c h := by simp only [ScoreOps.add]; omega
  sub_mono_l a b c h := by simp only [ScoreOps.sub]; omega

variable {S : Type} [ScoreOps S] [LinearOrder S] [ScoreLaws S]
open ScoreLaws

/-- The two disjuncts are the two polarities of a flag that chooses between `<` and `≤`; `t` is free so that a caller
can `generalize` the test first. -/
theorem test_sound (s : Bool) (x y : S) (t : Bool)
    (ht : (if s then lt x y else le x y) = t ∨ (if s then le x y else lt x y) = t) :
    (t = true → x ≤ y) ∧ (¬ t = true → y ≤ x) := by
  rcases ht with rfl | rfl <;> cases s <;>
    simp only [Bool.false_eq_true, if_false, if_true, le_iff, lt_iff, not_le, not_lt] <;>
    exact ⟨fun h => by order, fun h => by order⟩

end Verif.Align
