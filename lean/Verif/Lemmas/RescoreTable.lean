import Verif.Lemmas.Traceback
/-!
C02 over an **arbitrary observed table**: if every cell of a table holds *one of* the scheme's
candidates computed from its observed neighbours (and the borders are the scheme's borders),
re-scoring the traceback path reproduces the cell the traceback started from.  Maximality of the
choice is not needed, so tie rules and even sub-optimal choices cannot disturb this tie.
-/
namespace Verif.Align
open ScoreOps

section
variable {α : Type}

def movesOf (cols : List (Col α)) : List Mv := cols.filterMap colMove

@[simp] theorem movesOf_append (x y : List (Col α)) : movesOf (x ++ y) = movesOf x ++ movesOf y := by
  simp [movesOf]
@[simp] theorem movesOf_up (y : α) : movesOf [((none : Option α), some y)] = [.up] := rfl
@[simp] theorem movesOf_diag (x y : α) : movesOf [(some x, some y)] = [.diag] := rfl
@[simp] theorem movesOf_left (x : α) : movesOf [(some x, (none : Option α))] = [.left] := rfl
@[simp] theorem movesOf_nil : movesOf ([] : List (Col α)) = [] := rfl

end

variable {S : Type}

theorem rescore_cons (K : AffKernel S) (st : RS S) (m : Mv) (ms : List Mv) :
    rescore K st (m :: ms) = rescore K (rsStep K st m) ms := rfl

theorem rescore_snoc (K : AffKernel S) (st : RS S) (ms : List Mv) (m : Mv) :
    rescore K st (ms ++ [m]) = rsStep K (rescore K st ms) m := by
  simp [rescore, List.foldl_append]

theorem cell_of_code {c : Cell S} {u d l : S} (h : c = (u, 3) ∨ c = (d, 1) ∨ c = (l, 2)) :
    (c.2 = 3 → c = (u, 3)) ∧ (c.2 = 1 → c = (d, 1)) ∧ (c.2 ≠ 3 ∧ c.2 ≠ 1 → c = (l, 2)) := by
  rcases h with rfl | rfl | rfl <;> simp

theorem cell_of_codeL {c : Cell S} {u d l z : S} (h : c = (u, 3) ∨ c = (d, 1) ∨ c = (l, 2) ∨ c = (z, 0)) :
    (c.2 = 3 → c = (u, 3)) ∧ (c.2 = 1 → c = (d, 1)) ∧ (c.2 = 2 → c = (l, 2)) ∧
      (c.2 ≠ 1 → c.2 ≠ 2 → c.2 ≠ 3 → c = (z, 0)) := by
  rcases h with rfl | rfl | rfl | rfl <;> simp

structure TableOkG (K : AffKernel S) (T : Nat → Nat → Cell S) (N M : Nat) : Prop where
  corner : T 0 0 = K.corner
  row : ∀ j, j < M → T 0 (j+1) = K.row0 (j+1) (T 0 j)
  col : ∀ i, i < N → T (i+1) 0 = K.col0 (i+1) (T i 0)
  inner : ∀ i j, i < N → j < M →
    T (i+1) (j+1) = (K.candUp (i+1) (j+1) (T i (j+1)), 3) ∨
    T (i+1) (j+1) = (K.candDiag (i+1) (j+1) (T i j).1, 1) ∨
    T (i+1) (j+1) = (K.candLeft (i+1) (j+1) (T (i+1) j), 2)

section
variable {α : Type}

theorem Trace.rescore {Q : Nat → Nat → Mv → Prop} (K : AffKernel S) (T : Nat → Nat → Cell S) (N M : Nat)
    (col : ∀ i, i < N → Q (i+1) 0 .up → T (i+1) 0 = K.col0 (i+1) (T i 0))
    (row : ∀ j, j < M → Q 0 (j+1) .left → T 0 (j+1) = K.row0 (j+1) (T 0 j))
    (inner : ∀ i j, i < N → j < M →
      (Q (i+1) (j+1) .up → T (i+1) (j+1) = (K.candUp (i+1) (j+1) (T i (j+1)), 3)) ∧
      (Q (i+1) (j+1) .diag → T (i+1) (j+1) = (K.candDiag (i+1) (j+1) (T i j).1, 1)) ∧
      (Q (i+1) (j+1) .left → T (i+1) (j+1) = (K.candLeft (i+1) (j+1) (T (i+1) j), 2)))
    {a b : List α} {i0 j0 i j : Nat} {cols : List (Col α)} (t : Trace Q a b i0 j0 i j cols)
    (hi : i ≤ N) (hj : j ≤ M) :
    Align.rescore K ⟨i0, j0, T i0 j0⟩ (movesOf cols) = ⟨i, j, T i j⟩ := by
  -- after each `rw` the goal is the definition of `rsStep` at that move, on the border or off it
  induction t with
  | nil => rfl
  | @up i j _ _ q _ _ ih =>
    rw [movesOf_append, movesOf_up, rescore_snoc, ih (by omega) hj]
    cases j with
    | zero => rw [col i hi q]; rfl
    | succ j => rw [(inner i j hi hj).1 q]; rfl
  | @diag i j _ _ _ q _ _ _ ih =>
    rw [movesOf_append, movesOf_diag, rescore_snoc, ih (by omega) (by omega), (inner i j hi hj).2.1 q]; rfl
  | @left i j _ _ q _ _ ih =>
    rw [movesOf_append, movesOf_left, rescore_snoc, ih hi (by omega)]
    cases i with
    | zero => rw [row j hj q]; rfl
    | succ i => rw [(inner i j hi hj).2.2 q]; rfl

theorem rescore_tbGlobal_of_table (K : AffKernel S)
    (hrow : ∀ j c, (K.row0 j c).2 ≠ 3 ∧ (K.row0 j c).2 ≠ 1) (hcol : ∀ i c, (K.col0 i c).2 = 3)
    (a b : List α) (N M : Nat) (hN : N ≤ b.length) (hM : M ≤ a.length)
    (T : Nat → Nat → Cell S) (hT : TableOkG K T N M)
    (tb : Nat → Nat → Nat) (htb : ∀ i j, i ≤ N → j ≤ M → tb i j = (T i j).2)
    (i j : Nat) (acc : List (Col α)) (hi : i ≤ N) (hj : j ≤ M) :
    ∃ cols, tbGlobal tb a b i j acc = some (cols ++ acc) ∧
      rescore K ⟨0, 0, K.corner⟩ (movesOf cols) = ⟨i, j, T i j⟩ := by
  have hb : BordersG tb N M := by
    constructor
    · intro j hj; rw [htb _ _ (by omega) hj, hT.row j hj]; exact hrow _ _
    · intro i hi; rw [htb _ _ hi (by omega), hT.col i hi]; exact hcol _ _
  obtain ⟨cols, h, t⟩ := tbGlobal_trace tb a b N M hN hM hb i j acc hi hj
  refine ⟨cols, h,
    hT.corner ▸ t.rescore K T N M (fun i hi _ => hT.col i hi) (fun j hj _ => hT.row j hj) ?_ hi hj⟩
  intro i j hi hj
  simp only [movG, htb _ _ hi hj]
  exact cell_of_code (hT.inner i j hi hj)

end

variable [ScoreOps S] {α : Type}

structure TableOkL (K : AffKernel S) (T : Nat → Nat → Cell S) (N M : Nat) : Prop where
  row : ∀ j, j ≤ M → T 0 j = (zero, 0)
  col : ∀ i, i ≤ N → T i 0 = (zero, 0)
  inner : ∀ i j, i < N → j < M →
    T (i+1) (j+1) = (K.candUp (i+1) (j+1) (T i (j+1)), 3) ∨
    T (i+1) (j+1) = (K.candDiag (i+1) (j+1) (T i j).1, 1) ∨
    T (i+1) (j+1) = (K.candLeft (i+1) (j+1) (T (i+1) j), 2) ∨
    T (i+1) (j+1) = (zero, 0)

theorem rescore_tbLocal_of_table (K : AffKernel S)
    (a b : List α) (N M : Nat) (hN : N ≤ b.length) (hM : M ≤ a.length)
    (T : Nat → Nat → Cell S) (hT : TableOkL K T N M)
    (tb : Nat → Nat → Nat) (htb : ∀ i j, i ≤ N → j ≤ M → tb i j = (T i j).2)
    (k l : Nat) (acc : List (Col α)) (hk : k ≤ N) (hl : l ≤ M) :
    ∃ i0 j0 cols, tbLocal tb a b k l acc = some (i0, j0, cols ++ acc) ∧
      rescore K ⟨i0, j0, (zero, 0)⟩ (movesOf cols) = ⟨k, l, T k l⟩ := by
  have hb : BordersL tb N M := by
    constructor
    · intro j hj; rw [htb _ _ (by omega) hj, hT.row j hj]; simp
    · intro i hi; rw [htb _ _ hi (by omega), hT.col i hi]; simp
  obtain ⟨i0, j0, cols, h, t, h1, h2, h3⟩ := tbLocal_trace tb a b N M hN hM hb k l acc hk hl
  obtain ⟨hi0, hj0, _⟩ := t.lossless
  have h0 : T i0 j0 = (zero, 0) := by
    rw [htb _ _ (by omega) (by omega)] at h1 h2 h3
    rcases i0 with _ | i
    · exact hT.row j0 (by omega)
    · rcases j0 with _ | j
      · exact hT.col _ (by omega)
      · exact (cell_of_codeL (hT.inner i j (by omega) (by omega))).2.2.2 h1 h2 h3
  -- a move never enters a border cell: its code is 0
  refine ⟨i0, j0, cols, h, h0 ▸ t.rescore K T N M ?_ ?_ ?_ hk hl⟩
  · intro i hi q
    simp [movL, htb _ _ hi (Nat.zero_le _), hT.col (i+1) hi] at q
  · intro j hj q
    simp [movL, htb _ _ (Nat.zero_le _) hj, hT.row (j+1) hj] at q
  · intro i j hi hj
    simp only [movL, htb _ _ hi hj]
    have hc := cell_of_codeL (hT.inner i j hi hj)
    exact ⟨hc.1, hc.2.1, hc.2.2.1⟩

end Verif.Align
