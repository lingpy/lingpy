import Mathlib.Order.Defs.LinearOrder
import Verif.Lemmas.Rescore
/-!
C03 (optimality) at the level of an abstract affine kernel and a comparison `r` of scores:
if the candidates are monotone in the predecessor value and do not depend on the predecessor
move (the classical scheme, `scale = 1`), and the selection returns a value that dominates
all candidates, then every cell dominates the score of **every** path that reaches it.
-/
namespace Verif.Align
open ScoreOps
variable {S : Type}

/-- `r` is the comparison ("is dominated by"): `≤` for similarity kernels, `≥` for the edit-distance kernel. -/
structure MonoR (r : S → S → Prop) (K : AffKernel S) : Prop where
  up : ∀ i j (c c' : Cell S), r c.1 c'.1 → r (K.candUp i j c) (K.candUp i j c')
  left : ∀ i j (c c' : Cell S), r c.1 c'.1 → r (K.candLeft i j c) (K.candLeft i j c')
  diag : ∀ i j (v v' : S), r v v' → r (K.candDiag i j v) (K.candDiag i j v')
  row0 : ∀ j (c c' : Cell S), r c.1 c'.1 → r (K.row0 j c).1 (K.row0 j c').1
  col0 : ∀ i (c c' : Cell S), r c.1 c'.1 → r (K.col0 i c).1 (K.col0 i c').1
  choose : ∀ a m b, r a (K.choose a m b).1 ∧ r m (K.choose a m b).1 ∧ r b (K.choose a m b).1

/-- an alignment of a prefix pair: consumes `i` symbols of B and `j` symbols of A -/
def IsPath (i j : Nat) (ms : List Mv) : Prop :=
  (ms.filter (· ≠ .left)).length = i ∧ (ms.filter (· ≠ .up)).length = j

theorem rescore_pos (K : AffKernel S) (ms : List Mv) (st : RS S) :
    (rescore K st ms).i = st.i + (ms.filter (· ≠ .left)).length ∧
    (rescore K st ms).j = st.j + (ms.filter (· ≠ .up)).length := by
  induction ms generalizing st with
  | nil => simp [rescore]
  | cons m ms ih =>
    rw [rescore_cons, (ih _).1, (ih _).2]
    cases m <;> simp [rsStep] <;> omega

variable [Inhabited S]

theorem rsStep_r (r : S → S → Prop) (rt : ∀ a b c, r a b → r b c → r a c)
    (K : AffKernel S) (hK : MonoR r K) (M : Nat) (st : RS S) (m : Mv)
    (hj : (rsStep K st m).j ≤ M)
    (h : r st.cur.1 (T K.toFill M st.i st.j).1) :
    r (rsStep K st m).cur.1 (T K.toFill M (rsStep K st m).i (rsStep K st m).j).1 := by
  obtain ⟨i, j, cur⟩ := st
  cases m with
  | up =>
    simp only [rsStep] at hj ⊢
    cases j with
    | zero =>
      simp only [if_true]
      rw [T_col0]
      exact hK.col0 _ _ _ h
    | succ j =>
      simp only [Nat.succ_ne_zero, if_false]
      rw [T_inner_aff K M i j (by omega)]
      exact rt _ _ _ (hK.up _ _ _ _ h) (hK.choose _ _ _).1
  | left =>
    simp only [rsStep] at hj ⊢
    cases i with
    | zero =>
      simp only [if_true]
      rw [T_row0 _ _ _ (by omega)]
      exact hK.row0 _ _ _ h
    | succ i =>
      simp only [Nat.add_one_ne_zero, if_false]
      rw [T_inner_aff K M i j (by omega)]
      exact rt _ _ _ (hK.left _ _ _ _ h) (hK.choose _ _ _).2.2
  | diag =>
    simp only [rsStep] at hj ⊢
    rw [T_inner_aff K M i j (by omega)]
    exact rt _ _ _ (hK.diag _ _ _ _ h) (hK.choose _ _ _).2.1

theorem rescore_r (r : S → S → Prop) (rt : ∀ a b c, r a b → r b c → r a c)
    (K : AffKernel S) (hK : MonoR r K) (M : Nat) (ms : List Mv) (st : RS S)
    (hj : (rescore K st ms).j ≤ M)
    (h : r st.cur.1 (T K.toFill M st.i st.j).1) :
    r (rescore K st ms).cur.1 (T K.toFill M (rescore K st ms).i (rescore K st ms).j).1 := by
  induction ms generalizing st with
  | nil => simpa [rescore] using h
  | cons m ms ih =>
    rw [rescore_cons] at hj ⊢
    exact ih _ hj (rsStep_r r rt K hK M st m (by rw [(rescore_pos K ms _).2] at hj; omega) h)

theorem path_r (r : S → S → Prop) (rt : ∀ a b c, r a b → r b c → r a c)
    (K : AffKernel S) (hK : MonoR r K) (M : Nat) (ms : List Mv) (st : RS S)
    (hj : st.j + (ms.filter (· ≠ .up)).length ≤ M)
    (h : r st.cur.1 (T K.toFill M st.i st.j).1) :
    r (rescore K st ms).cur.1
      (T K.toFill M (st.i + (ms.filter (· ≠ .left)).length) (st.j + (ms.filter (· ≠ .up)).length)).1 := by
  have hpos := rescore_pos K ms st
  have := rescore_r r rt K hK M ms st (by rw [hpos.2]; exact hj) h
  rwa [hpos.1, hpos.2] at this

theorem kernel_opt {α : Type} (r : S → S → Prop) (rr : ∀ a, r a a) (rt : ∀ a b c, r a b → r b c → r a c)
    (K : AffKernel S) (hK : ChooseOkG K) (hM : MonoR r K)
    (hrow : ∀ j c, (K.row0 j c).2 ≠ 3 ∧ (K.row0 j c).2 ≠ 1) (hcol : ∀ i c, (K.col0 i c).2 = 3)
    (a b : List α) (tb : Nat → Nat → Nat)
    (htb : ∀ i j, i ≤ b.length → j ≤ a.length → tb i j = (T K.toFill a.length i j).2) :
    (∀ ms, IsPath b.length a.length ms →
      r (rescore K ⟨0, 0, K.corner⟩ ms).cur.1 (T K.toFill a.length b.length a.length).1) ∧
    ∃ cols, tbGlobal tb a b b.length a.length [] = some cols ∧ IsPath b.length a.length (movesOf cols) ∧
      rescore K ⟨0, 0, K.corner⟩ (movesOf cols) = ⟨b.length, a.length, T K.toFill a.length b.length a.length⟩ := by
  constructor
  · intro ms hp
    have := path_r r rt K hM a.length ms ⟨0, 0, K.corner⟩ (by simp only [hp.2]; omega) (by rw [T_corner]; exact rr _)
    simpa only [hp.1, hp.2, Nat.zero_add] using this
  · obtain ⟨cols, h1, h2⟩ := rescore_tbGlobal K hK hrow hcol a b b.length a.length (Nat.le_refl _) (Nat.le_refl _)
      tb htb b.length a.length [] (Nat.le_refl _) (Nat.le_refl _)
    have hpos := rescore_pos K (movesOf cols) ⟨0, 0, K.corner⟩
    rw [h2] at hpos
    exact ⟨cols, by simpa using h1, ⟨by simpa using hpos.1.symm, by simpa using hpos.2.symm⟩, h2⟩

variable [LinearOrder S]

abbrev MonoK (K : AffKernel S) : Prop := MonoR (· ≤ ·) K

theorem rescore_le (K : AffKernel S) (hK : MonoK K) (M : Nat) (ms : List Mv) (st : RS S)
    (hj : (rescore K st ms).j ≤ M)
    (h : st.cur.1 ≤ (T K.toFill M st.i st.j).1) :
    (rescore K st ms).cur.1 ≤ (T K.toFill M (rescore K st ms).i (rescore K st ms).j).1 :=
  rescore_r (· ≤ ·) (fun _ _ _ => le_trans) K hK M ms st hj h

end Verif.Align
