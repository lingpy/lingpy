import Verif.Model.Cluster
import Verif.Lemmas.ListFacts
/-!
Lemmas about the flat-clustering model that need no law about the scores.  A theorem about one run goes through
`run_inv` (a predicate of the state) or `flatCluster_forall` / `flatCluster_pairwise` (of the single clusters).
-/
namespace Verif.Cluster
open Verif.Align ScoreOps

theorem takeOut_eq (cs : St) (q : Nat) (hq : q < cs.length) : takeOut cs q = some (cs[q], cs.eraseIdx q) := by
  induction cs generalizing q with
  | nil => simp at hq
  | cons c cs ih =>
    cases q with
    | zero => rfl
    | succ q => simp [takeOut, ih q (by simpa using hq)]

theorem addTo_perm (r : St) (p : Nat) (B : List Nat) (hp : p < r.length) :
    (addTo r p B).Perm ((r[p].1, r[p].2 ++ B) :: r.eraseIdx p) := by
  induction r generalizing p with
  | nil => simp at hp
  | cons c cs ih =>
    cases p with
    | zero => simp [addTo]
    | succ p =>
      simp only [List.length_cons] at hp
      have := ih p (by omega)
      simp only [addTo, List.getElem_cons_succ, List.eraseIdx_cons_succ]
      exact (List.Perm.cons _ this).trans (List.Perm.swap _ _ _)

theorem addTo_length (r : St) (p : Nat) (B : List Nat) : (addTo r p B).length = r.length := by
  induction r generalizing p with
  | nil => simp [addTo]
  | cons c cs ih => cases p <;> simp [addTo, ih]

theorem mergeAt_perm (cs : St) (p q : Nat) (hp : p < cs.length) (hq : q < cs.length) (hne : p ≠ q) :
    ∃ rest, (cs[p] :: cs[q] :: rest).Perm cs ∧
      (mergeAt cs p q).Perm ((cs[p].1, cs[p].2 ++ cs[q].2) :: rest) ∧ (mergeAt cs p q).length + 1 = cs.length := by
  -- after `cs[q]` is taken out, `cs[p]` sits at position `p` or `p - 1`
  obtain ⟨p', hp', h6⟩ : ∃ p', (if p < q then p else p - 1) = p' ∧ (cs.eraseIdx q)[p']? = some cs[p] := by
    rcases Nat.lt_or_gt_of_ne hne with h | h
    · refine ⟨p, if_pos h, ?_⟩
      rw [List.getElem?_eraseIdx_of_lt h, List.getElem?_eq_getElem hp]
    · obtain ⟨p, rfl⟩ := Nat.exists_eq_add_one_of_ne_zero (Nat.ne_zero_of_lt h)
      refine ⟨p, if_neg (Nat.lt_asymm h), ?_⟩
      rw [List.getElem?_eraseIdx_of_ge (Nat.le_of_lt_succ h), List.getElem?_eq_getElem hp]
  obtain ⟨hlt, hget⟩ := List.getElem?_eq_some_iff.mp h6
  have hm : mergeAt cs p q = addTo (cs.eraseIdx q) p' cs[q].2 := by rw [mergeAt, takeOut_eq cs q hq, hp']
  have h1 := cons_cons_eraseIdx_perm hq hlt
  have h2 := addTo_perm (cs.eraseIdx q) p' cs[q].2 hlt
  rw [hget] at h1 h2
  rw [← hm] at h2
  exact ⟨_, h1, h2, by rw [h2.length_eq, ← h1.length_eq]; rfl⟩

theorem mem_cross {S : Type} (M : Nat → Nat → S) (A B : List Nat) (v : S) :
    v ∈ cross M A B ↔ ∃ a ∈ A, ∃ b ∈ B, v = M a b := by
  simp only [cross, List.mem_flatMap, List.mem_map, eq_comm]

theorem cross_ne_nil {S : Type} (M : Nat → Nat → S) (A B : List Nat) (hA : A ≠ []) (hB : B ≠ []) : cross M A B ≠ [] := by
  obtain ⟨a, ha⟩ := List.exists_mem_of_ne_nil A hA
  obtain ⟨b, hb⟩ := List.exists_mem_of_ne_nil B hB
  exact List.ne_nil_of_mem ((mem_cross M A B _).mpr ⟨a, ha, b, hb, rfl⟩)

variable {S : Type} [ScoreOps S]

theorem pairScores_valid (cfg : Cfg) (M : Nat → Nat → S) (cs : St) (x : (Nat × Nat) × S)
    (hx : x ∈ pairScores cfg M cs) :
    ∃ (hp : x.1.1 < cs.length) (hq : x.1.2 < cs.length), x.1.1 ≠ x.1.2 ∧
      x.2 = linkage cfg.link M cs[x.1.1].2 cs[x.1.2].2 := by
  simp only [pairScores, List.mem_flatMap, List.mem_filterMap] at hx
  obtain ⟨⟨a, i⟩, ha, ⟨b, j⟩, hb, hab⟩ := hx
  simp only [List.mem_zipIdx_iff_getElem?, List.getElem?_eq_some_iff] at ha hb
  obtain ⟨hi, rfl⟩ := ha
  obtain ⟨hj, rfl⟩ := hb
  obtain ⟨hc, hx⟩ := Option.ite_none_right_eq_some.mp hab
  cases hx
  refine ⟨hi, hj, ?_, rfl⟩
  show i ≠ j
  cases hu : cfg.unordered
  · simpa [hu] using hc
  · exact Nat.ne_of_lt (by simpa [hu] using hc)

theorem pairScores_complete (cfg : Cfg) (hu : cfg.unordered = false) (M : Nat → Nat → S) (cs : St)
    (p q : Nat) (hp : p < cs.length) (hq : q < cs.length) (hne : p ≠ q) :
    ((p, q), linkage cfg.link M cs[p].2 cs[q].2) ∈ pairScores cfg M cs := by
  simp only [pairScores, List.mem_flatMap, List.mem_filterMap]
  refine ⟨(cs[p], p), ?_, (cs[q], q), ?_, ?_⟩
  · rw [List.mem_zipIdx_iff_getElem?]; simp [List.getElem?_eq_getElem hp]
  · rw [List.mem_zipIdx_iff_getElem?]; simp [List.getElem?_eq_getElem hq]
  · simp [hu, hne]

theorem argMin_mem (lastMin : Bool) (l : List ((Nat × Nat) × S)) (x : (Nat × Nat) × S)
    (h : argMin lastMin l = some x) : x ∈ l := by
  cases l with
  | nil => cases h
  | cons y ys =>
    cases h
    exact foldl_pick_mem (fun y acc => if lastMin then le y.2 acc.2 else lt y.2 acc.2) ys y

theorem next_eq_some {cfg : Cfg} {M : Nat → Nat → S} {cs : St} {m : S} {cs' : St}
    (h : next cfg M cs = some (m, cs')) :
    ∃ p q, argMin cfg.lastMin (pairScores cfg M cs) = some ((p, q), m) ∧ cs' = mergeAt cs p q := by
  unfold next at h
  split at h
  · cases h
  · split at h
    · cases h
    · rename_i p q m' heq
      cases h
      exact ⟨p, q, heq, rfl⟩

theorem next_eq_none {cfg : Cfg} {M : Nat → Nat → S} {cs : St} (h : next cfg M cs = none) :
    cs.length ≤ 1 ∨ pairScores cfg M cs = [] := by
  unfold next at h
  split at h
  · exact Or.inl ‹_›
  · split at h
    · rename_i heq
      cases hps : pairScores cfg M cs with
      | nil => exact Or.inr rfl
      | cons x xs => rw [hps] at heq; cases heq
    · cases h

theorem next_spec (cfg : Cfg) (M : Nat → Nat → S) (cs : St) (m : S) (cs' : St)
    (h : next cfg M cs = some (m, cs')) :
    ∃ p q, ∃ (hp : p < cs.length) (hq : q < cs.length), p ≠ q ∧ cs' = mergeAt cs p q ∧
      m = linkage cfg.link M cs[p].2 cs[q].2 ∧ ((p, q), m) ∈ pairScores cfg M cs := by
  obtain ⟨p, q, heq, rfl⟩ := next_eq_some h
  have hmem := argMin_mem _ _ _ heq
  obtain ⟨hp, hq, hne, hl⟩ := pairScores_valid cfg M cs _ hmem
  exact ⟨p, q, hp, hq, hne, rfl, hl, hmem⟩

theorem next_perm (cfg : Cfg) (M : Nat → Nat → S) (cs cs' : St) (m : S)
    (h : next cfg M cs = some (m, cs')) :
    ∃ (a b : Nat × List Nat) (rest : St), (a :: b :: rest).Perm cs ∧
      cs'.Perm ((a.1, a.2 ++ b.2) :: rest) ∧ m = linkage cfg.link M a.2 b.2 := by
  obtain ⟨p, q, hp, hq, hne, rfl, hm, _⟩ := next_spec cfg M cs m cs' h
  obtain ⟨rest, h1, h2, _⟩ := mergeAt_perm cs p q hp hq hne
  exact ⟨cs[p], cs[q], rest, h1, h2, hm⟩

theorem next_length (cfg : Cfg) (M : Nat → Nat → S) (cs cs' : St) (m : S)
    (h : next cfg M cs = some (m, cs')) : cs'.length + 1 = cs.length := by
  obtain ⟨p, q, hp, hq, hne, rfl, _, _⟩ := next_spec cfg M cs m cs' h
  exact (mergeAt_perm cs p q hp hq hne).elim fun _ h => h.2.2

theorem run_inv (P : St → Prop) (cfg : Cfg) (M : Nat → Nat → S) (t : S)
    (hstep : ∀ cs m cs', P cs → next cfg M cs = some (m, cs') → le m t = true → P cs') :
    ∀ n cs, P cs → P (run cfg M t n cs) := by
  intro n cs h
  -- cases of `run` (and of `trace`): 1 no fuel, 2 no merge offered, 3 the offered merge is accepted, 4 refused
  fun_induction run cfg M t n cs with
  | case3 n cs m cs' hn hm ih => exact ih (hstep cs m cs' h hn hm)
  | _ => exact h

theorem flatCluster_forall (cfg : Cfg) (M : Nat → Nat → S) (t : S) (Q : List Nat → Prop) (hinit : ∀ i, Q [i])
    (hmerge : ∀ A B, A ≠ [] → B ≠ [] → Q A → Q B → le (linkage cfg.link M A B) t = true → Q (A ++ B))
    (n : Nat) : ∀ c ∈ flatCluster cfg M t n, c.2 ≠ [] ∧ Q c.2 := by
  refine run_inv (fun cs => ∀ c ∈ cs, c.2 ≠ [] ∧ Q c.2) cfg M t ?_ n (init n) ?_
  · intro cs m cs' hP hn hm c hc
    obtain ⟨a, b, rest, h1, h2, rfl⟩ := next_perm cfg M cs cs' _ hn
    have ha := hP a (h1.mem_iff.mp (by simp))
    have hb := hP b (h1.mem_iff.mp (by simp))
    rcases List.mem_cons.mp (h2.mem_iff.mp hc) with rfl | hc
    · exact ⟨by simp [ha.1], hmerge _ _ ha.1 hb.1 ha.2 hb.2 hm⟩
    · exact hP c (h1.mem_iff.mp (by simp [hc]))
  · intro c hc
    obtain ⟨i, _, rfl⟩ := List.mem_map.mp hc
    exact ⟨by simp, hinit i⟩

theorem flatCluster_pairwise (cfg : Cfg) (M : Nat → Nat → S) (t : S) (R : Nat → Nat → Prop) (hrefl : ∀ i, R i i)
    (hcross : ∀ A B, A ≠ [] → B ≠ [] → (∀ x ∈ A, ∀ y ∈ A, R x y) → (∀ x ∈ B, ∀ y ∈ B, R x y) →
      le (linkage cfg.link M A B) t = true → ∀ x ∈ A, ∀ y ∈ B, R x y ∧ R y x)
    (n : Nat) : ∀ c ∈ flatCluster cfg M t n, ∀ x ∈ c.2, ∀ y ∈ c.2, R x y := by
  intro c hc
  refine (flatCluster_forall cfg M t (fun A => ∀ x ∈ A, ∀ y ∈ A, R x y) ?_ ?_ n c hc).2
  · intro i x hx y hy
    rw [List.mem_singleton.mp hx, List.mem_singleton.mp hy]; exact hrefl i
  · intro A B hA hB hQA hQB hm x hx y hy
    have hAB := hcross A B hA hB hQA hQB hm
    rcases List.mem_append.mp hx with hx | hx <;> rcases List.mem_append.mp hy with hy | hy
    · exact hQA x hx y hy
    · exact (hAB x hx y hy).1
    · exact (hAB y hy x hx).2
    · exact hQB x hx y hy

theorem nonEmpty_flatCluster (cfg : Cfg) (M : Nat → Nat → S) (t : S) (n : Nat) :
    ∀ c ∈ flatCluster cfg M t n, c.2 ≠ [] :=
  fun c hc =>
    (flatCluster_forall cfg M t (fun _ => True) (fun _ => trivial) (fun _ _ _ _ _ _ _ => trivial) n c hc).1

end Verif.Cluster
