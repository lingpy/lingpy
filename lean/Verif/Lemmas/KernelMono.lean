import Verif.Lemmas.Optimal
import Verif.Lemmas.ScoreLaws
/-!
The concrete kernels of the family satisfy `MonoK` when the scheme is the classical one
(`scale = 1`, i.e. `g * scale = g`) over a carrier with a total order and monotone `+`/`-`.
-/
namespace Verif.Align
open ScoreOps

section
variable {S : Type} [LinearOrder S]

theorem ite_le_ite {p : Prop} [Decidable p] {x x' y y' : S} (hx : x ≤ x') (hy : y ≤ y') :
    (if p then x else y) ≤ (if p then x' else y') := by
  split
  exacts [hx, hy]

theorem ite_le {p : Prop} [Decidable p] {x y B : S} (hx : x ≤ B) (hy : y ≤ B) : (if p then x else y) ≤ B := by
  split
  exacts [hx, hy]

end

variable {S : Type} [ScoreOps S] [LinearOrder S] [ScoreLaws S]
open ScoreLaws

theorem chooseGlobal_max (cfg : Cfg) (a m b : S) :
    a ≤ (chooseGlobal cfg a m b).1 ∧ m ≤ (chooseGlobal cfg a m b).1 ∧ b ≤ (chooseGlobal cfg a m b).1 := by
  unfold chooseGlobal
  generalize h1 : (if cfg.strictA then lt m a else le m a) = t1
  generalize h2 : (if cfg.geM then le b m else lt b m) = t2
  obtain ⟨p1, n1⟩ := test_sound _ m a t1 (.inl h1)
  obtain ⟨p2, n2⟩ := test_sound _ b m t2 (.inr h2)
  split
  · rename_i hsel
    simp only [Bool.and_eq_true, le_iff] at hsel
    exact ⟨le_refl _, p1 hsel.1, hsel.2⟩
  · rename_i hsel
    have ha : a ≤ m ∨ a < b := by
      simp only [Bool.and_eq_true, le_iff, not_and_or, not_le] at hsel
      exact hsel.imp_left n1
    split
    · rename_i hm
      have hbm := p2 hm
      exact ⟨by rcases ha with ha | ha <;> order, le_refl _, hbm⟩
    · rename_i hm
      have hmb := n2 hm
      exact ⟨by rcases ha with ha | ha <;> order, hmb, le_refl _⟩

/-- Where the global choice is negative, so are the candidates the later tests of `chooseLocal` look at. -/
theorem chooseLocal_eq (cfg : Cfg) (a m b : S) :
    chooseLocal cfg a m b =
      if le zero (chooseGlobal cfg a m b).1 then chooseGlobal cfg a m b else (zero, 0) := by
  unfold chooseLocal chooseGlobal
  generalize h1 : (if cfg.strictA then lt m a else le m a) = t1
  generalize h2 : (if cfg.geM then le b m else lt b m) = t2
  have p1 := (test_sound _ m a t1 (.inl h1)).1
  have p2 := (test_sound _ b m t2 (.inr h2)).1
  by_cases c1 : (t1 && le b a) = true
  · simp only [c1, if_true, Bool.true_and]
    split
    · rfl
    · rename_i z
      simp only [Bool.and_eq_true, le_iff] at c1 z
      have hma := p1 c1.1
      have hba := c1.2
      have hm : ¬ zero ≤ m := by order
      have hb : ¬ zero ≤ b := by order
      simp [le_iff, hm, hb]
  · simp only [c1, Bool.false_and, Bool.false_eq_true, if_false]
    cases t2
    · simp
    · simp only [if_true, Bool.true_and]
      split
      · rfl
      · rename_i z
        rw [le_iff] at z
        have hbm := p2 rfl
        have hb : ¬ zero ≤ b := by order
        simp [le_iff, hb]

theorem chooseLocal_max (cfg : Cfg) (a m b : S) :
    a ≤ (chooseLocal cfg a m b).1 ∧ m ≤ (chooseLocal cfg a m b).1 ∧ b ≤ (chooseLocal cfg a m b).1 ∧
      zero ≤ (chooseLocal cfg a m b).1 := by
  obtain ⟨ha, hm, hb⟩ := chooseGlobal_max cfg a m b
  rw [chooseLocal_eq]
  split
  · rename_i z
    exact ⟨ha, hm, hb, (le_iff _ _).1 z⟩
  · rename_i z
    rw [le_iff, not_le] at z
    exact ⟨by order, by order, by order, le_refl _⟩

/-- With `g * scale = g` the branches on the predecessor's move `c.2` fall together. -/
theorem candUp_mono (cfg : Cfg) (inp : Input S) (hs : ∀ g : S, mul g inp.scale = g) (i j : Nat)
    (c c' : Cell S) (h : c.1 ≤ c'.1) : candUp cfg inp i j c ≤ candUp cfg inp i j c' := by
  unfold candUp
  simp only [hs, ite_self]
  exact ite_le_ite h (ite_le_ite (sub_mono_l _ _ _ h) (add_mono_l _ _ _ h))

theorem candLeft_mono (cfg : Cfg) (inp : Input S) (hs : ∀ g : S, mul g inp.scale = g) (i j : Nat)
    (c c' : Cell S) (h : c.1 ≤ c'.1) : candLeft cfg inp i j c ≤ candLeft cfg inp i j c' := by
  unfold candLeft
  simp only [hs, ite_self]
  exact ite_le_ite h (ite_le_ite (sub_mono_l _ _ _ h) (add_mono_l _ _ _ h))

theorem candDiag_mono (cfg : Cfg) (inp : Input S) (i j : Nat)
    (v v' : S) (h : v ≤ v') : candDiag cfg inp i j v ≤ candDiag cfg inp i j v' :=
  -- branches: `v + s` (flavour ≠ 0) | `s + (v + s·f)` | `s + (v - big)` | `s + (v + half (s·f))` | `s + v`
  ite_le_ite (add_mono_l _ _ _ h) <| ite_le_ite (add_mono_r _ _ _ (add_mono_l _ _ _ h)) <|
    ite_le_ite (add_mono_r _ _ _ (sub_mono_l _ _ _ h)) <|
    ite_le_ite (add_mono_r _ _ _ (add_mono_l _ _ _ h)) (add_mono_r _ _ _ h)

theorem kernel_choose_max (cfg : Cfg) (inp : Input S) (a m b : S) :
    a ≤ ((kernelOf cfg inp).choose a m b).1 ∧ m ≤ ((kernelOf cfg inp).choose a m b).1 ∧
      b ≤ ((kernelOf cfg inp).choose a m b).1 := by
  simp only [kernelOf]
  split
  · obtain ⟨ha, hm, hb, -⟩ := chooseLocal_max cfg a m b
    exact ⟨ha, hm, hb⟩
  · exact chooseGlobal_max cfg a m b

theorem kernel_monoK (cfg : Cfg) (inp : Input S) (hs : ∀ g : S, mul g inp.scale = g) :
    MonoK (kernelOf cfg inp) where
  up := candUp_mono cfg inp hs
  left := candLeft_mono cfg inp hs
  diag := candDiag_mono cfg inp
  row0 j c c' h := by
    simp only [kernelOf, apply_ite Prod.fst]
    exact ite_le_ite (le_refl _) (ite_le_ite (add_mono_l _ _ _ h) (ite_le_ite (add_mono_l _ _ _ h) (le_refl _)))
  col0 i c c' h := by
    simp only [kernelOf, apply_ite Prod.fst]
    exact ite_le_ite (le_refl _) (ite_le_ite (add_mono_l _ _ _ h) (ite_le_ite (add_mono_l _ _ _ h) (le_refl _)))
  choose := kernel_choose_max cfg inp

end Verif.Align
