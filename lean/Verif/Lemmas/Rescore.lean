import Verif.Lemmas.Fill
import Verif.Lemmas.RescoreTable
/-!
C02 at the level of an abstract affine kernel: the table filled by a kernel whose selection step
returns *one of* its candidates is a legal table of that kernel (`Lemmas/RescoreTable`).
No law about the numbers is used; maximality of the selection is not needed.
-/
namespace Verif.Align
open ScoreOps
variable {S : Type}

def ChooseOkG (K : AffKernel S) : Prop :=
  ∀ a m b, K.choose a m b = (a, 3) ∨ K.choose a m b = (m, 1) ∨ K.choose a m b = (b, 2)

section
variable [Inhabited S] {α : Type}

theorem T_inner_aff (K : AffKernel S) (M i j : Nat) (hj : j < M) :
    T K.toFill M (i+1) (j+1) =
      K.choose (K.candUp (i+1) (j+1) (T K.toFill M i (j+1)))
        (K.candDiag (i+1) (j+1) (T K.toFill M i j).1)
        (K.candLeft (i+1) (j+1) (T K.toFill M (i+1) j)) := by
  rw [T_inner _ _ _ _ hj]; rfl

theorem tableOkG_fill (K : AffKernel S) (hK : ChooseOkG K) (N M : Nat) : TableOkG K (T K.toFill M) N M where
  corner := T_corner _ _
  row j hj := T_row0 _ _ _ hj
  col i _ := T_col0 _ _ _
  inner i j _ hj := by rw [T_inner_aff K M i j hj]; exact hK _ _ _

theorem rescore_tbGlobal (K : AffKernel S) (hK : ChooseOkG K)
    (hrow : ∀ j c, (K.row0 j c).2 ≠ 3 ∧ (K.row0 j c).2 ≠ 1) (hcol : ∀ i c, (K.col0 i c).2 = 3)
    (a b : List α) (N M : Nat) (hN : N ≤ b.length) (hM : M ≤ a.length)
    (tb : Nat → Nat → Nat) (htb : ∀ i j, i ≤ N → j ≤ M → tb i j = (T K.toFill M i j).2) :
    ∀ (i j : Nat) (acc : List (Col α)), i ≤ N → j ≤ M →
      ∃ cols, tbGlobal tb a b i j acc = some (cols ++ acc) ∧
        rescore K ⟨0, 0, K.corner⟩ (movesOf cols) = ⟨i, j, T K.toFill M i j⟩ :=
  rescore_tbGlobal_of_table K hrow hcol a b N M hN hM _ (tableOkG_fill K hK N M) tb htb

end

variable [ScoreOps S] [Inhabited S] {α : Type}

def ChooseOkL (K : AffKernel S) : Prop :=
  ∀ a m b, K.choose a m b = (a, 3) ∨ K.choose a m b = (m, 1) ∨ K.choose a m b = (b, 2) ∨
    K.choose a m b = (zero, 0)

theorem tableOkL_fill (K : AffKernel S) (hK : ChooseOkL K) (hcorner : K.corner = (zero, 0))
    (hrow : ∀ j c, K.row0 j c = (zero, 0)) (hcol : ∀ i c, K.col0 i c = (zero, 0)) (N M : Nat) :
    TableOkL K (T K.toFill M) N M where
  row j hj := T_row0_const _ _ hcorner hrow M j hj
  col i _ := T_col0_const _ _ hcorner hcol M i
  inner i j _ hj := by rw [T_inner_aff K M i j hj]; exact hK _ _ _

theorem rescore_tbLocal (K : AffKernel S) (hK : ChooseOkL K)
    (hcorner : K.corner = (zero, 0))
    (hrow : ∀ j c, K.row0 j c = (zero, 0)) (hcol : ∀ i c, K.col0 i c = (zero, 0))
    (a b : List α) (N M : Nat) (hN : N ≤ b.length) (hM : M ≤ a.length)
    (tb : Nat → Nat → Nat) (htb : ∀ i j, i ≤ N → j ≤ M → tb i j = (T K.toFill M i j).2) :
    ∀ (k l : Nat) (acc : List (Col α)), k ≤ N → l ≤ M →
      ∃ i0 j0 cols, tbLocal tb a b k l acc = some (i0, j0, cols ++ acc) ∧
        rescore K ⟨i0, j0, (zero, 0)⟩ (movesOf cols) = ⟨k, l, T K.toFill M k l⟩ :=
  rescore_tbLocal_of_table K a b N M hN hM _ (tableOkL_fill K hK hcorner hrow hcol N M) tb htb

end Verif.Align
