import Verif.Model.Align
/-!
Refinement lemmas for the row-by-row fill: the materialised table satisfies the four
cell equations (corner, first row, first column, inner cell from its three neighbours).
Rows are indexed again only in the best-cell scan (`Lemmas/Scan`) and at the start cell of a dialign run (`dia_start`).
-/
namespace Verif.Align
variable {S : Type}

theorem firstRow_length (F : Fill S) (n j : Nat) (p : Cell S) : (firstRow F n j p).length = n := by
  induction n generalizing j p with
  | zero => simp [firstRow]
  | succ n ih => simp [firstRow, ih]

theorem firstRow_getD (F : Fill S) (d : Cell S) (n j : Nat) (p : Cell S) (k : Nat) (hk : k < n) :
    (p :: firstRow F n j p).getD (k+1) d = F.row0 (j+k) ((p :: firstRow F n j p).getD k d) := by
  induction n generalizing j p k with
  | zero => omega
  | succ n ih =>
    cases k with
    | zero => simp [firstRow]
    | succ k =>
      have := ih (j+1) (F.row0 j p) k (by omega)
      simp only [firstRow, List.getD_cons_succ] at this ⊢
      rw [this]
      congr 1
      omega

theorem rowFrom_length (F : Fill S) (i : Nat) (prev : List (List (Cell S))) (j : Nat) (l ul : Cell S)
    (ups : List (Cell S)) : (rowFrom F i prev j l ul ups).length = ups.length := by
  induction ups generalizing j l ul with
  | nil => simp [rowFrom]
  | cons u us ih => simp [rowFrom, ih]

theorem rowFrom_getD (F : Fill S) (d : Cell S) (i : Nat) (prev : List (List (Cell S))) (j : Nat) (l ul : Cell S)
    (ups : List (Cell S)) (k : Nat) (hk : k < ups.length) :
    (l :: rowFrom F i prev j l ul ups).getD (k+1) d =
      F.inner i (j+k) prev ((ul :: ups).getD (k+1) d) ((l :: rowFrom F i prev j l ul ups).getD k d)
        ((ul :: ups).getD k d) := by
  induction ups generalizing j l ul k with
  | nil => simp at hk
  | cons u us ih =>
    cases k with
    | zero => simp [rowFrom]
    | succ k =>
      have := ih (j+1) (F.inner i j prev u l ul) u k (by simpa using hk)
      simp only [rowFrom, List.getD_cons_succ] at this ⊢
      rw [this]
      congr 1
      omega

theorem rowsRev_ne_nil (F : Fill S) (M n : Nat) : rowsRev F M n ≠ [] := by
  cases n <;> simp [rowsRev]

theorem rowAt_zero (F : Fill S) (M : Nat) : rowAt F M 0 = F.corner :: firstRow F M 1 F.corner := by
  simp [rowAt, rowsRev]

theorem rowsRev_succ (F : Fill S) (M n : Nat) :
    rowsRev F M (n+1) = nextRow F (n+1) (rowsRev F M n) :: rowsRev F M n := by
  simp [rowsRev]

theorem rowsRev_eq_cons (F : Fill S) (M n : Nat) : ∃ tl, rowsRev F M n = rowAt F M n :: tl := by
  cases n with
  | zero => exact ⟨[], by simp [rowAt, rowsRev]⟩
  | succ n => exact ⟨rowsRev F M n, by simp [rowAt, rowsRev]⟩

theorem rowAt_length (F : Fill S) (M n : Nat) : (rowAt F M n).length = M + 1 := by
  induction n with
  | zero => simp [rowAt_zero, firstRow_length]
  | succ n ih =>
    obtain ⟨tl, htl⟩ := rowsRev_eq_cons F M n
    simp only [rowAt, rowsRev_succ, List.headD_cons]
    rw [htl]
    cases hr : rowAt F M n with
    | nil => simp [hr] at ih
    | cons u us =>
      simp only [nextRow, List.length_cons, rowFrom_length]
      simp [hr] at ih
      omega

theorem rowAt_succ (F : Fill S) (M n : Nat) :
    ∃ u us, rowAt F M n = u :: us ∧
      rowAt F M (n+1) = F.col0 (n+1) u :: rowFrom F (n+1) (rowsRev F M n) 1 (F.col0 (n+1) u) u us := by
  obtain ⟨tl, htl⟩ := rowsRev_eq_cons F M n
  have hlen := rowAt_length F M n
  cases hr : rowAt F M n with
  | nil => simp [hr] at hlen
  | cons u us =>
    refine ⟨u, us, rfl, ?_⟩
    simp only [rowAt, rowsRev_succ, List.headD_cons]
    rw [htl, hr]
    simp [nextRow]

theorem rowsRev_getD (F : Fill S) (M N i : Nat) (hi : i ≤ N) :
    (rowsRev F M N).getD (N - i) [] = rowAt F M i := by
  induction N with
  | zero =>
    have : i = 0 := by omega
    subst this
    simp [rowAt, rowsRev]
  | succ n ih =>
    by_cases h : i = n+1
    · subst h
      simp [rowAt, rowsRev]
    · have hle : i ≤ n := by omega
      have : n + 1 - i = (n - i) + 1 := by omega
      rw [this, rowsRev_succ, List.getD_cons_succ]
      exact ih hle

theorem rowsRev_length (F : Fill S) (M N : Nat) : (rowsRev F M N).length = N + 1 := by
  induction N with
  | zero => simp [rowsRev]
  | succ n ih => simp [rowsRev_succ, ih]

theorem rowsRev_reverse_getElem? (F : Fill S) (M N i : Nat) (row : List (Cell S)) :
    (rowsRev F M N).reverse[i]? = some row ↔ i ≤ N ∧ rowAt F M i = row := by
  have hlen := rowsRev_length F M N
  by_cases hi : i ≤ N
  · rw [List.getElem?_reverse (by omega), hlen, Nat.add_sub_cancel, ← rowsRev_getD F M N i hi,
      List.getD_eq_getElem?_getD, List.getElem?_eq_getElem (by omega)]
    simp [hi]
  · rw [List.getElem?_eq_none (by rw [List.length_reverse]; omega)]
    simp [hi]

section T
variable [Inhabited S]

theorem rowAt_getElem? (F : Fill S) (M i j : Nat) (c : Cell S) :
    (rowAt F M i)[j]? = some c ↔ j ≤ M ∧ T F M i j = c := by
  have hlen := rowAt_length F M i
  by_cases hj : j ≤ M
  · rw [T, List.getD_eq_getElem?_getD, List.getElem?_eq_getElem (by omega)]
    simp [hj]
  · rw [List.getElem?_eq_none (by omega)]
    simp [hj]

theorem T_corner (F : Fill S) (M : Nat) : T F M 0 0 = F.corner := by
  simp [T, rowAt_zero]

theorem T_row0 (F : Fill S) (M j : Nat) (hj : j < M) :
    T F M 0 (j+1) = F.row0 (j+1) (T F M 0 j) := by
  simp only [T, rowAt_zero]
  rw [firstRow_getD F _ M 1 F.corner j hj]
  congr 1
  omega

theorem T_col0 (F : Fill S) (M i : Nat) : T F M (i+1) 0 = F.col0 (i+1) (T F M i 0) := by
  obtain ⟨u, us, h1, h2⟩ := rowAt_succ F M i
  simp [T, h1, h2]

theorem T_row0_const (F : Fill S) (c : Cell S) (hcorner : F.corner = c) (hrow : ∀ j p, F.row0 j p = c)
    (M j : Nat) (hj : j ≤ M) : T F M 0 j = c := by
  cases j with
  | zero => rw [T_corner, hcorner]
  | succ j => rw [T_row0 _ _ _ hj, hrow]

theorem T_col0_const (F : Fill S) (c : Cell S) (hcorner : F.corner = c) (hcol : ∀ i p, F.col0 i p = c)
    (M i : Nat) : T F M i 0 = c := by
  cases i with
  | zero => rw [T_corner, hcorner]
  | succ i => rw [T_col0, hcol]

theorem T_inner (F : Fill S) (M i j : Nat) (hj : j < M) :
    T F M (i+1) (j+1) =
      F.inner (i+1) (j+1) (rowsRev F M i) (T F M i (j+1)) (T F M (i+1) j) (T F M i j) := by
  obtain ⟨u, us, h1, h2⟩ := rowAt_succ F M i
  have hlen := rowAt_length F M i
  rw [h1] at hlen
  simp only [T, h1, h2]
  rw [rowFrom_getD F _ (i+1) (rowsRev F M i) 1 (F.col0 (i+1) u) u us j (by simp at hlen; omega)]
  congr 1
  omega

theorem getCell_eq_T (F : Fill S) (M N i j : Nat) (hi : i ≤ N) :
    getCell (rowsRev F M N) N i j = T F M i j := by
  unfold getCell T
  rw [rowsRev_getD F M N i hi]

end T
end Verif.Align
