import Verif.Lemmas.Rescore
/-!
What the kernel family and `run` do, before any property is stated: borders and selection steps of the affine
kernels, the two shapes of a result of `run`.  No law about the numbers is used.
-/
namespace Verif.Align
open ScoreOps
variable {S : Type} [ScoreOps S]

theorem fillOf_aff (cfg : Cfg) (inp : Input S) (h : cfg.mode ≠ .dialign) :
    fillOf cfg inp = (kernelOf cfg inp).toFill := by
  simp [fillOf, h]

theorem kernel_row0_move (cfg : Cfg) (inp : Input S) (h : cfg.mode ≠ .local) (j : Nat) (c : Cell S) :
    ((kernelOf cfg inp).row0 j c).2 = 2 := by
  simp only [kernelOf, h, if_false, apply_ite Prod.snd, ite_self]

theorem kernel_col0_move (cfg : Cfg) (inp : Input S) (h : cfg.mode ≠ .local) (i : Nat) (c : Cell S) :
    ((kernelOf cfg inp).col0 i c).2 = 3 := by
  simp only [kernelOf, h, if_false, apply_ite Prod.snd, ite_self]

theorem fill_row0_move (cfg : Cfg) (inp : Input S) (h : cfg.mode ≠ .local) (j : Nat) (c : Cell S) :
    ((fillOf cfg inp).row0 j c).2 = 2 := by
  unfold fillOf
  split
  · rfl
  · exact kernel_row0_move cfg inp h j c

theorem fill_col0_move (cfg : Cfg) (inp : Input S) (h : cfg.mode ≠ .local) (i : Nat) (c : Cell S) :
    ((fillOf cfg inp).col0 i c).2 = 3 := by
  unfold fillOf
  split
  · rfl
  · exact kernel_col0_move cfg inp h i c

theorem kernel_local_row0 (cfg : Cfg) (inp : Input S) (h : cfg.mode = .local) (j : Nat) (c : Cell S) :
    (kernelOf cfg inp).row0 j c = (zero, 0) := by
  simp [kernelOf, h]

theorem kernel_local_col0 (cfg : Cfg) (inp : Input S) (h : cfg.mode = .local) (i : Nat) (c : Cell S) :
    (kernelOf cfg inp).col0 i c = (zero, 0) := by
  simp [kernelOf, h]

theorem kernel_local_corner (cfg : Cfg) (inp : Input S) (h : cfg.mode = .local) :
    (kernelOf cfg inp).corner = (zero, 0) := by
  simp [kernelOf, h]

theorem chooseGlobal_ok (cfg : Cfg) (a m b : S) :
    chooseGlobal cfg a m b = (a, 3) ∨ chooseGlobal cfg a m b = (m, 1) ∨ chooseGlobal cfg a m b = (b, 2) := by
  unfold chooseGlobal
  -- `split` would go for the tests inside the conditions first
  generalize ((if cfg.strictA then lt m a else le m a) && le b a) = c1
  generalize (if cfg.geM then le b m else lt b m) = c2
  split
  · exact .inl rfl
  · split
    · exact .inr (.inl rfl)
    · exact .inr (.inr rfl)

theorem chooseLocal_ok (cfg : Cfg) (a m b : S) :
    chooseLocal cfg a m b = (a, 3) ∨ chooseLocal cfg a m b = (m, 1) ∨ chooseLocal cfg a m b = (b, 2) ∨
      chooseLocal cfg a m b = (zero, 0) := by
  unfold chooseLocal
  generalize ((if cfg.strictA then lt m a else le m a) && le b a && le zero a) = c1
  generalize ((if cfg.geM then le b m else lt b m) && le zero m) = c2
  split
  · exact .inl rfl
  · split
    · exact .inr (.inl rfl)
    · split
      · exact .inr (.inr (.inl rfl))
      · exact .inr (.inr (.inr rfl))

theorem kernel_chooseOkG (cfg : Cfg) (inp : Input S) (h : cfg.mode ≠ .local) :
    ChooseOkG (kernelOf cfg inp) := by
  intro a m b
  simp only [kernelOf, h, if_false]
  exact chooseGlobal_ok cfg a m b

theorem kernel_chooseOkL (cfg : Cfg) (inp : Input S) (h : cfg.mode = .local) :
    ChooseOkL (kernelOf cfg inp) := by
  intro a m b
  simp only [kernelOf, h, if_true]
  exact chooseLocal_ok cfg a m b

theorem kernel_border_moves (cfg : Cfg) (inp : Input S) (hl : cfg.mode ≠ .local) :
    (∀ j c, ((kernelOf cfg inp).row0 j c).2 ≠ 3 ∧ ((kernelOf cfg inp).row0 j c).2 ≠ 1) ∧
      ∀ i c, ((kernelOf cfg inp).col0 i c).2 = 3 :=
  ⟨fun j c => by rw [kernel_row0_move cfg inp hl]; omega, kernel_col0_move cfg inp hl⟩

variable [Inhabited S]

theorem bordersG_of_fill (cfg : Cfg) (inp : Input S) (h : cfg.mode ≠ .local) (N : Nat) :
    BordersG (fun i j => (getCell (rowsRev (fillOf cfg inp) inp.M N) N i j).2) N inp.M := by
  constructor
  · intro j hj
    simp only [getCell_eq_T _ _ _ 0 _ (Nat.zero_le _)]
    rw [T_row0 _ _ _ hj, fill_row0_move cfg inp h]
    simp
  · intro i hi
    simp only [getCell_eq_T _ _ _ _ _ (Nat.succ_le_of_lt hi)]
    rw [T_col0, fill_col0_move cfg inp h]

theorem bordersL_of_fill (cfg : Cfg) (inp : Input S) (h : cfg.mode = .local) (N : Nat) :
    BordersL (fun i j => (getCell (rowsRev (fillOf cfg inp) inp.M N) N i j).2) N inp.M := by
  rw [fillOf_aff cfg inp (by simp [h])]
  constructor
  · intro j hj
    rw [getCell_eq_T _ _ _ 0 _ (Nat.zero_le _),
      T_row0_const _ _ (kernel_local_corner cfg inp h) (kernel_local_row0 cfg inp h) _ _ hj]
    simp
  · intro i hi
    rw [getCell_eq_T _ _ _ _ _ hi, T_col0_const _ _ (kernel_local_corner cfg inp h) (kernel_local_col0 cfg inp h)]
    simp

abbrev moveTab (cfg : Cfg) (inp : Input S) : Nat → Nat → Nat :=
  fun i j => (getCell (rowsRev (fillOf cfg inp) inp.M inp.N) inp.N i j).2

theorem run_glob (cfg : Cfg) (inp : Input S) (h : cfg.mode ≠ .local) (ha : inp.a ≠ []) (hb : inp.b ≠ []) :
    run cfg inp = match tbGlobal (moveTab cfg inp) inp.a inp.b inp.N inp.M [] with
      | some cols => .glob cols (T (fillOf cfg inp) inp.M inp.N inp.M).1
      | none => .error := by
  have hM : inp.M ≠ 0 := by simpa [Input.M] using ha
  have hN : inp.N ≠ 0 := by simpa [Input.N] using hb
  simp only [run, hM, hN, h, false_or, if_false, getCell_eq_T _ _ _ _ _ (Nat.le_refl _)]
  rfl

theorem run_loc (cfg : Cfg) (inp : Input S) (h : cfg.mode = .local)
    {i0 j0 k l : Nat} {cols : List (Col Nat)} {sim : S} (hr : run cfg inp = .loc i0 j0 k l cols sim) :
    (∃ s, bestScan cfg 1 ((rowsRev (fillOf cfg inp) inp.M inp.N).reverse.drop 1) (zero, 0, 0) = (s, k, l)) ∧
      k ≠ 0 ∧ k ≤ inp.N ∧ l ≤ inp.M ∧
      tbLocal (moveTab cfg inp) inp.a inp.b k l [] = some (i0, j0, cols) ∧
      sim = (T (fillOf cfg inp) inp.M k l).1 := by
  simp only [run, h] at hr
  split at hr
  · cases hr
  · simp only [if_true] at hr
    generalize hbs : bestScan cfg 1 (List.drop 1 (rowsRev (fillOf cfg inp) inp.M inp.N).reverse) (zero, 0, 0) = bs at hr
    obtain ⟨s, k', l'⟩ := bs
    simp only at hr
    split at hr
    · cases hr
    · rename_i hkl
      split at hr
      · rename_i htb
        cases hr
        exact ⟨⟨s, rfl⟩, by omega, by omega, by omega, htb, by rw [getCell_eq_T _ _ _ _ _ (by omega)]⟩
      · cases hr

-- `_hj` only gives the lemma the shape of the argument `htb` of `rescore_tbGlobal` and `kernel_opt`
theorem moveTab_aff (cfg : Cfg) (inp : Input S) (hd : cfg.mode ≠ .dialign) (i j : Nat) (hi : i ≤ inp.N) (_hj : j ≤ inp.M) :
    moveTab cfg inp i j = (T (kernelOf cfg inp).toFill inp.M i j).2 := by
  simp only [moveTab, getCell_eq_T _ _ _ _ _ hi, fillOf_aff cfg inp hd]

theorem T_local_border (cfg : Cfg) (inp : Input S) (hm : cfg.mode = .local) (M i j : Nat) (hj : j ≤ M)
    (h0 : i = 0 ∨ j = 0) : (T (kernelOf cfg inp).toFill M i j).1 = zero := by
  rcases h0 with rfl | rfl
  · rw [T_row0_const _ _ (kernel_local_corner cfg inp hm) (kernel_local_row0 cfg inp hm) M j hj]
  · rw [T_col0_const _ _ (kernel_local_corner cfg inp hm) (kernel_local_col0 cfg inp hm) M i]

end Verif.Align
