import Verif.Model.Align
/-!
The traceback loops read over an *arbitrary* move table: whatever the table holds away
from the borders, the emitted columns are lossless.  (C01's own level of abstraction.)
-/
namespace Verif.Align
variable {α : Type}

def degapA (cols : List (Col α)) : List α := cols.filterMap (·.1)
def degapB (cols : List (Col α)) : List α := cols.filterMap (·.2)
def NoDoubleGap (cols : List (Col α)) : Prop := ∀ c ∈ cols, c ≠ (none, none)

@[simp] theorem degapA_nil : degapA ([] : List (Col α)) = [] := rfl
@[simp] theorem degapB_nil : degapB ([] : List (Col α)) = [] := rfl
@[simp] theorem degapA_append (x y : List (Col α)) : degapA (x ++ y) = degapA x ++ degapA y := by
  simp [degapA]
@[simp] theorem degapB_append (x y : List (Col α)) : degapB (x ++ y) = degapB x ++ degapB y := by
  simp [degapB]
@[simp] theorem degapA_single_none (y : Option α) : degapA [((none : Option α), y)] = [] := rfl
@[simp] theorem degapA_single_some (x : α) (y : Option α) : degapA [(some x, y)] = [x] := rfl
@[simp] theorem degapB_single_none (x : Option α) : degapB [(x, (none : Option α))] = [] := rfl
@[simp] theorem degapB_single_some (x : Option α) (y : α) : degapB [(x, some y)] = [y] := rfl
theorem noDoubleGap_append {x y : List (Col α)} (hx : NoDoubleGap x) (hy : NoDoubleGap y) :
    NoDoubleGap (x ++ y) :=
  List.forall_mem_append.mpr ⟨hx, hy⟩

structure BordersG (tb : Nat → Nat → Nat) (N M : Nat) : Prop where
  row : ∀ j, j < M → tb 0 (j+1) ≠ 3 ∧ tb 0 (j+1) ≠ 1
  col : ∀ i, i < N → tb (i+1) 0 = 3

theorem take_succ_of_getElem? {l : List α} {n : Nat} {x : α} (h : l[n]? = some x) :
    l.take (n+1) = l.take n ++ [x] := by
  rw [List.take_add_one, h]; rfl

variable {tb : Nat → Nat → Nat} {a b : List α} {i j : Nat} {acc : List (Col α)} {x y : α}

theorem tbGlobal_up (h : tb (i+1) j = 3) (hy : b[i]? = some y) :
    tbGlobal tb a b (i+1) j acc = tbGlobal tb a b i j ((none, some y) :: acc) := by
  cases j <;> simp [tbGlobal, h, hy]

theorem tbGlobal_diag (h : tb (i+1) (j+1) = 1) (hx : a[j]? = some x) (hy : b[i]? = some y) :
    tbGlobal tb a b (i+1) (j+1) acc = tbGlobal tb a b i j ((some x, some y) :: acc) := by
  simp [tbGlobal, h, hx, hy]

theorem tbGlobal_left (h3 : tb i (j+1) ≠ 3) (h1 : tb i (j+1) ≠ 1) (hx : a[j]? = some x) :
    tbGlobal tb a b i (j+1) acc = tbGlobal tb a b i j ((some x, none) :: acc) := by
  cases i <;> simp [tbGlobal, h3, h1, hx]

theorem tbLocal_up (h : tb (i+1) j = 3) (hy : b[i]? = some y) :
    tbLocal tb a b (i+1) j acc = tbLocal tb a b i j ((none, some y) :: acc) := by
  cases j <;> simp [tbLocal, h, hy]

theorem tbLocal_diag (h : tb (i+1) (j+1) = 1) (hx : a[j]? = some x) (hy : b[i]? = some y) :
    tbLocal tb a b (i+1) (j+1) acc = tbLocal tb a b i j ((some x, some y) :: acc) := by
  simp [tbLocal, h, hx, hy]

theorem tbLocal_left (h : tb i (j+1) = 2) (hx : a[j]? = some x) :
    tbLocal tb a b i (j+1) acc = tbLocal tb a b i j ((some x, none) :: acc) := by
  cases i <;> simp [tbLocal, h, hx]

theorem tbLocal_stop (h1 : tb i j ≠ 1) (h2 : tb i j ≠ 2) (h3 : tb i j ≠ 3) :
    tbLocal tb a b i j acc = some (i, j, acc) := by
  cases i <;> cases j <;> simp [tbLocal, h1, h2, h3]

/-- `cols` are the columns, left to right, of a path from cell `(i0,j0)` to cell `(i,j)`; `Q i j m` holds of every
cell `(i,j)` it enters by move `m`.  Both loops walk such a path backwards. -/
inductive Trace (Q : Nat → Nat → Mv → Prop) (a b : List α) (i0 j0 : Nat) : Nat → Nat → List (Col α) → Prop
  | nil : Trace Q a b i0 j0 i0 j0 []
  | up {i j cols y} : Q (i+1) j .up → b[i]? = some y → Trace Q a b i0 j0 i j cols →
      Trace Q a b i0 j0 (i+1) j (cols ++ [(none, some y)])
  | diag {i j cols x y} : Q (i+1) (j+1) .diag → a[j]? = some x → b[i]? = some y → Trace Q a b i0 j0 i j cols →
      Trace Q a b i0 j0 (i+1) (j+1) (cols ++ [(some x, some y)])
  | left {i j cols x} : Q i (j+1) .left → a[j]? = some x → Trace Q a b i0 j0 i j cols →
      Trace Q a b i0 j0 i (j+1) (cols ++ [(some x, none)])

theorem Trace.lossless {Q : Nat → Nat → Mv → Prop} {i0 j0 : Nat} {cols : List (Col α)}
    (t : Trace Q a b i0 j0 i j cols) :
    i0 ≤ i ∧ j0 ≤ j ∧ a.take j0 ++ degapA cols = a.take j ∧ b.take i0 ++ degapB cols = b.take i ∧
      NoDoubleGap cols := by
  induction t with
  | nil => simp [NoDoubleGap]
  | up _ hy _ ih =>
    obtain ⟨hi, hj, hA, hB, hG⟩ := ih
    refine ⟨by omega, hj, ?_, ?_, noDoubleGap_append hG (by simp [NoDoubleGap])⟩
    · simp [hA]
    · simp [take_succ_of_getElem? hy, ← hB]
  | diag _ hx hy _ ih =>
    obtain ⟨hi, hj, hA, hB, hG⟩ := ih
    refine ⟨by omega, by omega, ?_, ?_, noDoubleGap_append hG (by simp [NoDoubleGap])⟩
    · simp [take_succ_of_getElem? hx, ← hA]
    · simp [take_succ_of_getElem? hy, ← hB]
  | left _ hx _ ih =>
    obtain ⟨hi, hj, hA, hB, hG⟩ := ih
    refine ⟨hi, by omega, ?_, ?_, noDoubleGap_append hG (by simp [NoDoubleGap])⟩
    · simp [take_succ_of_getElem? hx, ← hA]
    · simp [hB]

theorem Trace.length_le {Q : Nat → Nat → Mv → Prop} {i0 j0 : Nat} {cols : List (Col α)}
    (t : Trace Q a b i0 j0 i j cols) : i0 + j0 + cols.length ≤ i + j := by
  induction t with
  | nil => simp
  | up _ _ _ ih => simp; omega
  | diag _ _ _ _ ih => simp; omega
  | left _ _ _ ih => simp; omega

/-- how the global loop reads a move code; `movL`: the local loop -/
def movG (tb : Nat → Nat → Nat) (i j : Nat) : Mv → Prop
  | .up => tb i j = 3
  | .diag => tb i j = 1
  | .left => tb i j ≠ 3 ∧ tb i j ≠ 1

def movL (tb : Nat → Nat → Nat) (i j : Nat) : Mv → Prop
  | .up => tb i j = 3
  | .diag => tb i j = 1
  | .left => tb i j = 2

theorem tbGlobal_trace (tb : Nat → Nat → Nat) (a b : List α) (N M : Nat)
    (hN : N ≤ b.length) (hM : M ≤ a.length) (hb : BordersG tb N M) :
    ∀ (i j : Nat) (acc : List (Col α)), i ≤ N → j ≤ M →
      ∃ cols, tbGlobal tb a b i j acc = some (cols ++ acc) ∧ Trace (movG tb) a b 0 0 i j cols := by
  intro i j
  induction hn : i + j using Nat.strongRecOn generalizing i j with
  | _ n ih =>
    intro acc hi hj
    have step : ∀ i' j' c, i' + j' < n → i' ≤ N → j' ≤ M →
        tbGlobal tb a b i j acc = tbGlobal tb a b i' j' (c :: acc) →
        (∀ cols, Trace (movG tb) a b 0 0 i' j' cols → Trace (movG tb) a b 0 0 i j (cols ++ [c])) →
        ∃ cols, tbGlobal tb a b i j acc = some (cols ++ acc) ∧ Trace (movG tb) a b 0 0 i j cols := by
      intro i' j' c hlt hi' hj' e tr
      obtain ⟨cols, h1, h2⟩ := ih _ hlt i' j' rfl (c :: acc) hi' hj'
      exact ⟨cols ++ [c], by simp [e, h1], tr cols h2⟩
    rcases i with _ | i
    · rcases j with _ | j
      · exact ⟨[], by simp [tbGlobal], .nil⟩
      · have hx := List.getElem?_eq_getElem (show j < a.length by omega)
        have ⟨h3, h1⟩ := hb.row j hj
        exact step 0 j _ (by omega) hi (by omega) (tbGlobal_left h3 h1 hx) fun _ t => .left ⟨h3, h1⟩ hx t
    · have hy := List.getElem?_eq_getElem (show i < b.length by omega)
      by_cases c3 : tb (i+1) j = 3
      · exact step i j _ (by omega) (by omega) hj (tbGlobal_up c3 hy) fun _ t => .up c3 hy t
      · rcases j with _ | j
        · exact absurd (hb.col i hi) c3
        · have hx := List.getElem?_eq_getElem (show j < a.length by omega)
          by_cases c1 : tb (i+1) (j+1) = 1
          · exact step i j _ (by omega) (by omega) (by omega) (tbGlobal_diag c1 hx hy)
              fun _ t => .diag c1 hx hy t
          · exact step (i+1) j _ (by omega) hi (by omega) (tbGlobal_left c3 c1 hx)
              fun _ t => .left ⟨c3, c1⟩ hx t

theorem tbGlobal_spec (tb : Nat → Nat → Nat) (a b : List α) (N M : Nat)
    (hN : N ≤ b.length) (hM : M ≤ a.length) (hb : BordersG tb N M)
    (i j : Nat) (acc : List (Col α)) (hi : i ≤ N) (hj : j ≤ M) :
    ∃ cols, tbGlobal tb a b i j acc = some (cols ++ acc) ∧
      degapA cols = a.take j ∧ degapB cols = b.take i ∧ NoDoubleGap cols ∧ cols.length ≤ i + j := by
  obtain ⟨cols, h, t⟩ := tbGlobal_trace tb a b N M hN hM hb i j acc hi hj
  obtain ⟨_, _, hA, hB, hG⟩ := t.lossless
  exact ⟨cols, h, by simpa using hA, by simpa using hB, hG, by simpa using t.length_le⟩

structure BordersL (tb : Nat → Nat → Nat) (N M : Nat) : Prop where
  row : ∀ j, j ≤ M → tb 0 j ≠ 3 ∧ tb 0 j ≠ 1
  col : ∀ i, i ≤ N → tb i 0 ≠ 1 ∧ tb i 0 ≠ 2

theorem tbLocal_trace (tb : Nat → Nat → Nat) (a b : List α) (N M : Nat)
    (hN : N ≤ b.length) (hM : M ≤ a.length) (hb : BordersL tb N M) :
    ∀ (k l : Nat) (acc : List (Col α)), k ≤ N → l ≤ M →
      ∃ i0 j0 cols, tbLocal tb a b k l acc = some (i0, j0, cols ++ acc) ∧ Trace (movL tb) a b i0 j0 k l cols ∧
        (tb i0 j0 ≠ 1 ∧ tb i0 j0 ≠ 2 ∧ tb i0 j0 ≠ 3) := by
  intro k l
  induction hn : k + l using Nat.strongRecOn generalizing k l with
  | _ n ih =>
    intro acc hk hl
    have step : ∀ i' j' c, i' + j' < n → i' ≤ N → j' ≤ M →
        tbLocal tb a b k l acc = tbLocal tb a b i' j' (c :: acc) →
        (∀ i0 j0 cols, Trace (movL tb) a b i0 j0 i' j' cols → Trace (movL tb) a b i0 j0 k l (cols ++ [c])) →
        ∃ i0 j0 cols, tbLocal tb a b k l acc = some (i0, j0, cols ++ acc) ∧ Trace (movL tb) a b i0 j0 k l cols ∧
          (tb i0 j0 ≠ 1 ∧ tb i0 j0 ≠ 2 ∧ tb i0 j0 ≠ 3) := by
      intro i' j' c hlt hi' hj' e tr
      obtain ⟨i0, j0, cols, h1, h2, h3⟩ := ih _ hlt i' j' rfl (c :: acc) hi' hj'
      exact ⟨i0, j0, cols ++ [c], by simp [e, h1], tr _ _ cols h2, h3⟩
    by_cases c3 : tb k l = 3
    · rcases k with _ | i
      · exact absurd c3 (hb.row l hl).1
      · have hy := List.getElem?_eq_getElem (show i < b.length by omega)
        exact step i l _ (by omega) (by omega) hl (tbLocal_up c3 hy) fun _ _ _ t => .up c3 hy t
    · by_cases c1 : tb k l = 1
      · rcases k with _ | i
        · exact absurd c1 (hb.row l hl).2
        · rcases l with _ | j
          · exact absurd c1 (hb.col (i+1) hk).1
          · have hy := List.getElem?_eq_getElem (show i < b.length by omega)
            have hx := List.getElem?_eq_getElem (show j < a.length by omega)
            exact step i j _ (by omega) (by omega) (by omega) (tbLocal_diag c1 hx hy)
              fun _ _ _ t => .diag c1 hx hy t
      · by_cases c2 : tb k l = 2
        · rcases l with _ | j
          · exact absurd c2 (hb.col k hk).2
          · have hx := List.getElem?_eq_getElem (show j < a.length by omega)
            exact step k j _ (by omega) hk (by omega) (tbLocal_left c2 hx) fun _ _ _ t => .left c2 hx t
        · exact ⟨k, l, [], by simp [tbLocal_stop c1 c2 c3], .nil, c1, c2, c3⟩

theorem tbLocal_spec (tb : Nat → Nat → Nat) (a b : List α) (N M : Nat)
    (hN : N ≤ b.length) (hM : M ≤ a.length) (hb : BordersL tb N M)
    (k l : Nat) (acc : List (Col α)) (hk : k ≤ N) (hl : l ≤ M) :
    ∃ i0 j0 cols, tbLocal tb a b k l acc = some (i0, j0, cols ++ acc) ∧ i0 ≤ k ∧ j0 ≤ l ∧
      a.take j0 ++ degapA cols = a.take l ∧ b.take i0 ++ degapB cols = b.take k ∧
      NoDoubleGap cols ∧ (tb i0 j0 ≠ 1 ∧ tb i0 j0 ≠ 2 ∧ tb i0 j0 ≠ 3) := by
  obtain ⟨i0, j0, cols, h, t, hs⟩ := tbLocal_trace tb a b N M hN hM hb k l acc hk hl
  obtain ⟨hi, hj, hA, hB, hG⟩ := t.lossless
  exact ⟨i0, j0, cols, h, hi, hj, hA, hB, hG, hs⟩

end Verif.Align
