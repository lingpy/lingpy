import Verif.Lemmas.ScoreLaws
import Verif.Lemmas.Fill
import Verif.Lemmas.ListFacts
/-!
The row-major scan for the best cell in local mode returns a cell that dominates every
inner cell of the table (and the initial value zero).  The two nested loops are one left fold over the inner cells in
scan order: the fold of `foldl_pick_mem` / `foldl_pick_le` (`Lemmas/ListFacts`).
-/
namespace Verif.Align
open ScoreOps ScoreLaws

section
variable {S : Type}

/-- value and position of the cells the scan looks at, in scan order -/
def scanCells (i : Nat) (rows : List (List (Cell S))) : List (S × Nat × Nat) :=
  (rows.zipIdx i).flatMap fun r => ((r.1.drop 1).zipIdx 1).map fun c => (c.1.1, r.2, c.2)

theorem mem_zipIdx_drop {α : Type} {l : List α} {d n : Nat} {x : α} :
    (x, n) ∈ (l.drop d).zipIdx d ↔ d ≤ n ∧ l[n]? = some x := by
  rw [List.mk_mem_zipIdx_iff_le_and_getElem?_sub, List.getElem?_drop]
  exact and_congr_right fun h => by rw [Nat.add_sub_cancel' h]

/-- The model skips row 0 as it skips column 0: it drops it and counts from 1. -/
theorem mem_scanCells {d : Nat} {tab : List (List (Cell S))} {s : S} {k l : Nat} :
    (s, k, l) ∈ scanCells d (tab.drop d) ↔
      ∃ row, (d ≤ k ∧ tab[k]? = some row) ∧ ∃ m, 1 ≤ l ∧ row[l]? = some (s, m) := by
  simp only [scanCells, List.mem_flatMap, List.mem_map, Prod.exists, Prod.mk.injEq, mem_zipIdx_drop]
  constructor
  · rintro ⟨row, _, hrow, _, m, _, hc, rfl, rfl, rfl⟩
    exact ⟨row, hrow, m, hc⟩
  · rintro ⟨row, hrow, m, hc⟩
    exact ⟨row, k, hrow, s, m, l, hc, rfl, rfl, rfl⟩

end

variable {S : Type} [ScoreOps S]

def scanTest (cfg : Cfg) (y acc : S × Nat × Nat) : Bool := if cfg.lastBest then le acc.1 y.1 else lt acc.1 y.1

theorem bestScanRow_eq (cfg : Cfg) (i : Nat) : ∀ (cs : List (Cell S)) (j : Nat) (st : S × Nat × Nat),
    bestScanRow cfg i j cs st =
      ((cs.zipIdx j).map fun c => (c.1.1, i, c.2)).foldl (fun acc y => if scanTest cfg y acc then y else acc) st
  | [], _, _ => rfl
  | c :: cs, j, st => by
    rw [bestScanRow, bestScanRow_eq cfg i cs]
    rfl

theorem bestScan_eq (cfg : Cfg) : ∀ (rows : List (List (Cell S))) (i : Nat) (st : S × Nat × Nat),
    bestScan cfg i rows st = (scanCells i rows).foldl (fun acc y => if scanTest cfg y acc then y else acc) st
  | [], _, _ => rfl
  | row :: rows, i, st => by
    rw [bestScan, bestScan_eq cfg rows, bestScanRow_eq]
    exact List.foldl_append.symm

variable [LinearOrder S] [ScoreLaws S]

theorem scanTest_sound (cfg : Cfg) (y acc : S × Nat × Nat) :
    (scanTest cfg y acc = true → acc.1 ≤ y.1) ∧ (¬ scanTest cfg y acc = true → y.1 ≤ acc.1) :=
  test_sound cfg.lastBest acc.1 y.1 _ (.inr rfl)

theorem bestScan_spec (cfg : Cfg) (i : Nat) (rows : List (List (Cell S))) (st : S × Nat × Nat) :
    bestScan cfg i rows st ∈ st :: scanCells i rows ∧
      ∀ v ∈ st :: scanCells i rows, v.1 ≤ (bestScan cfg i rows st).1 := by
  rw [bestScan_eq]
  exact ⟨foldl_pick_mem (scanTest cfg) _ st,
    foldl_pick_le (scanTest cfg) (fun a b => b.1 ≤ a.1) (fun _ => le_refl _) (fun _ _ _ h1 h2 => le_trans h2 h1)
      (fun y acc => (scanTest_sound cfg y acc).1) (fun y acc => (scanTest_sound cfg y acc).2) _ st⟩

variable [Inhabited S]

theorem bestScan_table (cfg : Cfg) (F : Fill S) (M N : Nat) (s : S) (k l : Nat)
    (h : bestScan cfg 1 ((rowsRev F M N).reverse.drop 1) (zero, 0, 0) = (s, k, l)) :
    zero ≤ s ∧ (∀ i j, i < N → j < M → (T F M (i+1) (j+1)).1 ≤ s) ∧ (k ≠ 0 → s = (T F M k l).1) := by
  obtain ⟨hmem, hle⟩ := bestScan_spec cfg 1 ((rowsRev F M N).reverse.drop 1) ((zero : S), 0, 0)
  rw [h] at hmem hle
  refine ⟨hle _ List.mem_cons_self, fun i j hi hj => hle (_, i+1, j+1) (List.mem_cons_of_mem _ ?_), fun hk => ?_⟩
  · refine mem_scanCells.mpr ⟨rowAt F M (i+1), ⟨by omega, ?_⟩, (T F M (i+1) (j+1)).2, by omega, ?_⟩
    · exact (rowsRev_reverse_getElem? ..).mpr ⟨by omega, rfl⟩
    · exact (rowAt_getElem? ..).mpr ⟨by omega, rfl⟩
  · rcases List.mem_cons.mp hmem with e | hmem
    · cases e
      exact absurd rfl hk
    · obtain ⟨row, ⟨-, hrow⟩, m, -, hc⟩ := mem_scanCells.mp hmem
      obtain ⟨-, rfl⟩ := (rowsRev_reverse_getElem? ..).mp hrow
      exact (congrArg Prod.fst ((rowAt_getElem? ..).mp hc).2).symm

end Verif.Align
