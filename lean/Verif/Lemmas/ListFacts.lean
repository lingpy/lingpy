/-!
Facts about core lists that core does not state and that more than one file of the development needs.  No import: the
Mathlib-free files use them too.  The namespace is `Verif`, so every `Verif.X` sees the names unqualified.

Core has, and the files use directly: `List.getElem_eq_getD` (an entry in range does not depend on the default),
`List.getElem?_zip_eq_some` with `List.mem_of_getElem?` (membership in a `zip` by position).
-/
namespace Verif

/-! ### Entries and positions -/

theorem map_getD_range_of_le {α : Type} (d : α) (l : List α) {n : Nat} (h : l.length ≤ n) :
    (List.range n).map (fun i => l.getD i d) = l ++ List.replicate (n - l.length) d := by
  apply List.ext_getElem (by simp; omega)
  intro i _ _
  simp only [List.getElem_map, List.getElem_range, List.getD_eq_getElem?_getD, List.getElem_append, List.getElem_replicate]
  split
  · rename_i hi; simp [hi]
  · rename_i hi; simp [List.getElem?_eq_none (Nat.le_of_not_lt hi)]

theorem map_getD_range {α : Type} (d : α) (l : List α) : (List.range l.length).map (fun i => l.getD i d) = l := by
  rw [map_getD_range_of_le d l (Nat.le_refl _), Nat.sub_self, List.replicate_zero, List.append_nil]

theorem mem_zip_iff_getElem {α β : Type} {xs : List α} {ys : List β} {p : α × β} :
    p ∈ xs.zip ys ↔ ∃ (i : Nat) (h1 : i < xs.length) (h2 : i < ys.length), p = (xs[i], ys[i]) := by
  simp only [List.mem_iff_getElem, List.getElem_zip, List.length_zip, Nat.lt_min]
  exact ⟨fun ⟨i, h, e⟩ => ⟨i, h.1, h.2, e.symm⟩, fun ⟨i, h1, h2, e⟩ => ⟨i, ⟨h1, h2⟩, e.symm⟩⟩

theorem getElem?_snoc {α : Type} {l : List α} {r x : α} {j : Nat} (h : (l ++ [r])[j]? = some x) :
    (j < l.length ∧ l[j]? = some x) ∨ (j = l.length ∧ r = x) := by
  rcases Nat.lt_trichotomy j l.length with hlt | rfl | hgt
  · exact Or.inl ⟨hlt, by rwa [List.getElem?_append_left hlt] at h⟩
  · exact Or.inr ⟨rfl, by simpa using h⟩
  · rw [List.getElem?_eq_none (by simp; omega)] at h
    cases h

theorem idxOf_inj {α : Type} [BEq α] [LawfulBEq α] {l : List α} {a b : α} (ha : a ∈ l) (hb : b ∈ l)
    (h : l.idxOf a = l.idxOf b) : a = b := by
  rw [← List.getElem_idxOf (List.idxOf_lt_length_of_mem ha), ← List.getElem_idxOf (List.idxOf_lt_length_of_mem hb)]
  simp only [h]

theorem dropWhile_eq_self {α : Type} (p : α → Bool) (l : List α) (h : ∀ c, l.head? = some c → p c = false) :
    l.dropWhile p = l := by
  cases l with
  | nil => rfl
  | cons c r => rw [List.dropWhile_cons_of_neg (by simp [h c rfl])]

/-! ### Members and permutations -/

theorem mem_pair {α : Type} {a b c : α} : c ∈ [a, b] ↔ c = a ∨ c = b := by simp

theorem getElem_cons_eraseIdx_perm {α : Type} (l : List α) (i : Nat) (h : i < l.length) :
    (l[i] :: l.eraseIdx i).Perm l := by
  rw [List.eraseIdx_eq_take_drop_succ]
  conv => rhs; rw [← List.take_append_drop i l, List.drop_eq_getElem_cons h]
  exact List.perm_middle.symm

theorem cons_cons_eraseIdx_perm {α : Type} {l : List α} {i j : Nat} (hj : j < l.length) (hi : i < (l.eraseIdx j).length) :
    ((l.eraseIdx j)[i] :: l[j] :: (l.eraseIdx j).eraseIdx i).Perm l :=
  ((List.Perm.swap _ _ _).trans ((getElem_cons_eraseIdx_perm _ i hi).cons _)).trans (getElem_cons_eraseIdx_perm l j hj)

theorem nodup_flatMap {α β : Type} {f : α → List β} {l : List α} (h : (l.flatMap f).Nodup) :
    (∀ a ∈ l, (f a).Nodup) ∧ ∀ a ∈ l, ∀ b ∈ l, ∀ k ∈ f a, k ∈ f b → a = b := by
  induction l with
  | nil => exact ⟨fun _ ha => (nomatch ha), fun _ ha => (nomatch ha)⟩
  | cons x xs ih =>
    obtain ⟨hx, hxs, hdis⟩ := List.nodup_append.mp (by simpa only [List.flatMap_cons] using h)
    obtain ⟨ih1, ih2⟩ := ih hxs
    refine ⟨fun a ha => (List.mem_cons.mp ha).elim (· ▸ hx) (ih1 a), fun a ha b hb k hka hkb => ?_⟩
    rcases List.mem_cons.mp ha with rfl | ha' <;> rcases List.mem_cons.mp hb with rfl | hb'
    · rfl
    · exact absurd rfl (hdis k hka k (List.mem_flatMap.mpr ⟨b, hb', hkb⟩))
    · exact absurd rfl (hdis k hkb k (List.mem_flatMap.mpr ⟨a, ha', hka⟩))
    · exact ih2 a ha' b hb' k hka hkb

/-! ### Folds

The fold that keeps its accumulator unless the next element beats it: `listMin`, `listMax` and `argMin` of the clusterer and
the best-cell scan of the local aligners are all of this form.  When beating (`c`) means being `r`-below and not being beaten
means not being `r`-above, the result is `r`-least. -/

theorem foldl_pick_mem {α : Type} (c : α → α → Bool) (xs : List α) (x : α) :
    xs.foldl (fun acc y => if c y acc then y else acc) x ∈ x :: xs := by
  induction xs generalizing x with
  | nil => simp
  | cons y ys ih =>
    rcases List.mem_cons.mp (ih (if c y x then y else x)) with h | h
    · rw [List.foldl_cons, h]; split <;> simp
    · exact List.mem_cons_of_mem _ (List.mem_cons_of_mem _ h)

theorem foldl_pick_le {α : Type} (c : α → α → Bool) (r : α → α → Prop) (hrefl : ∀ a, r a a)
    (htrans : ∀ a b d, r a b → r b d → r a d) (ht : ∀ y acc, c y acc = true → r y acc)
    (hf : ∀ y acc, ¬ c y acc = true → r acc y) (xs : List α) (x : α) :
    ∀ v ∈ x :: xs, r (xs.foldl (fun acc y => if c y acc then y else acc) x) v := by
  induction xs generalizing x with
  | nil => exact List.forall_mem_singleton.mpr (hrefl x)
  | cons y ys ih =>
    -- the result is below the accumulator after `y`, which is below both `x` and `y`
    have hx : r (if c y x then y else x) x ∧ r (if c y x then y else x) y := by
      split
      · exact ⟨ht y x ‹_›, hrefl y⟩
      · exact ⟨hrefl x, hf y x ‹_›⟩
    obtain ⟨hacc, hys⟩ := List.forall_mem_cons.mp (ih (if c y x then y else x))
    refine List.forall_mem_cons.mpr ⟨htrans _ _ _ hacc hx.1, ?_⟩
    exact List.forall_mem_cons.mpr ⟨htrans _ _ _ hacc hx.2, hys⟩

theorem foldl_max_le_iff {l : List Nat} {b m : Nat} : l.foldl max b ≤ m ↔ b ≤ m ∧ ∀ x ∈ l, x ≤ m :=
  (List.max?_le_iff List.max?_cons').trans List.forall_mem_cons

theorem le_foldl_max {l : List Nat} {b x : Nat} (h : x ∈ l) : x ≤ l.foldl max b :=
  (foldl_max_le_iff.mp (Nat.le_refl _)).2 x h

theorem foldl_max_range (n : Nat) : (List.range (n + 1)).foldl max 0 = n :=
  Nat.le_antisymm (foldl_max_le_iff.mpr ⟨n.zero_le, fun _ hx => Nat.le_of_lt_succ (List.mem_range.mp hx)⟩)
    (le_foldl_max (List.mem_range.mpr n.lt_succ_self))

/-! The fold that appends every element not seen before (first occurrences, in order): `WL.keyOrder`, `Partial.distinct` and
`Components.firsts` are it from `[]`, the first and the last with the test written `acc.contains y`. -/

theorem mem_foldl_firstOcc {α : Type} [DecidableEq α] (xs acc : List α) (x : α) :
    x ∈ xs.foldl (fun acc y => if y ∈ acc then acc else acc ++ [y]) acc ↔ x ∈ acc ∨ x ∈ xs := by
  induction xs generalizing acc with
  | nil => simp
  | cons y ys ih =>
    rw [List.foldl_cons, ih, List.mem_cons]
    split
    · rename_i hy
      exact ⟨Or.imp_right Or.inr, fun h => h.elim Or.inl fun h => h.elim (fun e => Or.inl (e ▸ hy)) Or.inr⟩
    · rw [List.mem_append, List.mem_singleton, or_assoc]

theorem nodup_foldl_firstOcc {α : Type} [DecidableEq α] (xs acc : List α) (h : acc.Nodup) :
    (xs.foldl (fun acc y => if y ∈ acc then acc else acc ++ [y]) acc).Nodup := by
  induction xs generalizing acc with
  | nil => exact h
  | cons y ys ih =>
    rw [List.foldl_cons]
    apply ih
    split
    · exact h
    · rename_i hy
      exact List.nodup_append.mpr ⟨h, List.pairwise_singleton _ y, fun a ha b hb e => hy (List.mem_singleton.mp hb ▸ e ▸ ha)⟩

end Verif
