import Mathlib.Tactic.Linarith
import Verif.Lemmas.ScoreLaws
/-!
The rational numbers as a score carrier: exact arithmetic for the theorems that need a field
(Neighbor-Joining on tree metrics, self-distance).
-/
namespace Verif.Align
open ScoreOps ScoreLaws

instance : ScoreOps ℚ where
  add := (· + ·)
  sub := (· - ·)
  mul := (· * ·)
  div := (· / ·)
  sum := List.sum
  half := (· / 2)
  le a b := decide (a ≤ b)
  lt a b := decide (a < b)
  zero := 0
  one := 1
  big := 1000000
  ofNat := fun n => (n : ℚ)

instance : ScoreLaws ℚ where
  le_iff a b := by simp [ScoreOps.le]
  lt_iff a b := by simp [ScoreOps.lt]
  add_mono_l a b c h := by simp only [ScoreOps.add]; linarith
  add_mono_r a b c h := by simp only [ScoreOps.add]; linarith
  sub_mono_l a b c h := by simp only [ScoreOps.sub]; linarith

@[simp] theorem q_add (a b : ℚ) : ScoreOps.add a b = a + b := rfl
@[simp] theorem q_sub (a b : ℚ) : ScoreOps.sub a b = a - b := rfl
@[simp] theorem q_mul (a b : ℚ) : ScoreOps.mul a b = a * b := rfl
@[simp] theorem q_half (a : ℚ) : ScoreOps.half a = a / 2 := rfl
@[simp] theorem q_big : (ScoreOps.big : ℚ) = 1000000 := rfl
@[simp] theorem q_le (a b : ℚ) : (ScoreOps.le a b = true) ↔ a ≤ b := by simp [ScoreOps.le]
@[simp] theorem q_lt (a b : ℚ) : (ScoreOps.lt a b = true) ↔ a < b := by simp [ScoreOps.lt]
@[simp] theorem q_div (a b : ℚ) : ScoreOps.div a b = a / b := rfl
@[simp] theorem q_sum (l : List ℚ) : ScoreOps.sum l = l.sum := rfl
@[simp] theorem q_zero : (ScoreOps.zero : ℚ) = 0 := rfl
@[simp] theorem q_one : (ScoreOps.one : ℚ) = 1 := rfl
@[simp] theorem q_ofNat (n : Nat) : (ScoreOps.ofNat n : ℚ) = (n : ℚ) := rfl

end Verif.Align
