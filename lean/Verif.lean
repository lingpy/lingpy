-- Root of the `Verif` library: models, lemmas and property theorems.
import Verif.Model.Align
import Verif.Model.EditDist
import Verif.Model.SoundClass
import Verif.Props.C01
import Verif.Props.C02
import Verif.Props.C03
import Verif.Props.C03Edit
import Verif.Props.C03Metric
import Verif.Lemmas.ListFacts
import Verif.Lemmas.RatCarrier
import Verif.Props.C03Self
import Verif.Model.Cluster
import Verif.Props.C05
import Verif.Props.C05Order
import Verif.Props.C05Textbook
import Verif.Model.TreeDist
import Verif.Props.C15
import Verif.Props.C15Sets
import Verif.Props.C15Newick
import Verif.Props.C15Text
import Verif.Model.Heap
import Verif.Props.C19
import Verif.Model.Cache
import Verif.Props.C20
import Verif.Model.Wordlist
import Verif.Props.C12
import Verif.Props.C12Names
import Verif.Model.Cell
import Verif.Props.C13
import Verif.Props.C13Line
import Verif.Generated.Namespace
import Verif.Generated.SoundClasses
import Verif.Generated.Scorers
import Verif.Props.C14Gen
import Verif.Props.C14
import Verif.Props.C14Class2Tokens
import Verif.Model.Cognates
import Verif.Props.C06
import Verif.Props.C06Cor
import Verif.Props.C06Avg
import Verif.Model.Partial
import Verif.Props.C16
import Verif.Props.C16Comp
import Verif.Props.C16Slices
import Verif.Model.GainLoss
import Verif.Props.C07
import Verif.Props.C08
import Verif.Props.C08Whole
import Verif.Props.C07R
import Verif.Model.TreeBuild
import Verif.Props.C09
import Verif.Props.C09Ultra
import Verif.Props.C09NJ
import Verif.Props.C09Recover
import Verif.Props.C09Cherry
import Verif.Props.C09NJAdd
import Verif.Props.C09NJRun
import Verif.Props.C09Tree
import Verif.Model.MSA
import Verif.Props.C04
import Verif.Props.C04Prog
import Verif.Props.C04Update
import Verif.Props.C04Wordlist
import Verif.Props.C18
import Verif.Model.FBits
import Verif.Props.C02Table
import Verif.Model.Refine
import Verif.Props.C11Pass
import Verif.Props.C04Gap
import Verif.Model.WordlistViews
import Verif.Props.C12Dict
import Verif.Model.Dst
import Verif.Props.C13Dst
import Verif.Model.Num
import Verif.Props.C13Num
import Verif.Model.Turchin
import Verif.Props.C06Turchin
import Verif.Props.C13DstBlock
import Verif.Props.C13ScorerBlock
import Verif.Props.C04C11
